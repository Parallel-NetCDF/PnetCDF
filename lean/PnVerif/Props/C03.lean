import PnVerif.Props.C04
import PnVerif.Lemmas.LayoutLemmas
import PnVerif.Lemmas.PostPass
import PnVerif.Lemmas.Written
/-
  C03 — files written conform to the classic CDF-1/2/5 format specification.
  Models: Model/Layout.lean (NC_begins, alignment precedence), Model/Header.lean (writer, header
  length); independent decoder: Spec/SpecDecode.lean.

  Predicates of the statements: AlignOk, OldOk, LayoutWF (Lemmas/LayoutLemmas); varsOf (Model/Layout)
  and its closed form vlsOf, written (Lemmas/Written; `varsOf_valid` links the two views); VarValid
  (Lemmas/Accept); the others as in Props/C04.
-/
namespace PnVerif.Props.C03
open PnVerif.Spec PnVerif.Header PnVerif.Layout

/-- The header size the library reports and uses for every offset is the number of bytes the writer
    produces (all three formats, every header). -/
theorem header_size_is_bytes_written (h : Hdr) (hn : NamesNoNul h) : (encodeRaw h).length = Hdr.len h :=
  PnVerif.Props.C04.encode_length h hn

/-- A decoder written from the format specification alone recovers from the written header exactly
    what was defined — dimensions, attributes of every type and length (0 included), variables,
    record count, begins — and stops exactly at the end of the header. -/
theorem written_header_decodes (d : Schema) (rest : Bytes) (h : Encodable d) :
    Spec.header (encodeRaw d ++ rest) = some (d, rest) :=
  header_put d rest h

/-- Whatever hints (nc_header_align_size, nc_var_align_size, nc_record_align_size) and ncmpi__enddef
    arguments are given, the alignments NC_begins works with are positive multiples of 4. -/
theorem alignments_resolved (envH envV envR hMin argV vMin argR numFix : Nat) (isRedef : Bool) :
    AlignOk (resolveAlign envH envV envR hMin argV vMin argR numFix isRedef) :=
  resolveAlign_ok envH envV envR hMin argV vMin argR numFix isRedef

/-- Every layout NC_begins accepts — on a new file and on any redefinition — is
    well-formed: all begins are multiples of 4; the header plus h_minfree fits before the first
    variable; fixed-size variables follow in definition order without overlap; the record section
    starts after them plus v_minfree; record variables are consecutive inside a record; recsize is
    the sum of the padded lengths, or the unpadded size for exactly one record variable; the first
    fixed-size variable is aligned to h_align on a new file; begin_rec is aligned to r_align unless
    pinned to the old begin_rec; and a redefinition moves nothing towards the start of the file.
    The statement is for ALL formats, header sizes, variable lists, hints and ncmpi__enddef
    arguments (through `resolveAlign`). -/
theorem begins_wf (fmt : Fmt) (xsz : Nat) (vars : List VarL)
    (envH envV envR hMin argV vMin argR numFix : Nat) (beginRec0 : Nat) (old : Option Old) (L : Layout)
    (hlen : ∀ v ∈ vars, v.len % 4 = 0 ∧ 0 < v.len)
    (hold : ∀ o, old = some o → OldOk vars o ∧ beginRec0 = o.beginRec)
    (h : ncBegins fmt xsz vars (resolveAlign envH envV envR hMin argV vMin argR numFix old.isSome) beginRec0 old = .ok L) :
    LayoutWF xsz vars (resolveAlign envH envV envR hMin argV vMin argR numFix old.isSome) old L :=
  ncBegins_wf fmt xsz vars _ beginRec0 old L (resolveAlign_ok _ _ _ _ _ _ _ _ _) hlen hold h

/-- new file: no assumption besides the variable lengths being what ncmpio_NC_var_shape64 produces
    (positive multiples of 4) -/
theorem begins_wf_fresh (fmt : Fmt) (xsz : Nat) (vars : List VarL)
    (envH envV envR hMin argV vMin argR numFix : Nat) (L : Layout)
    (hlen : ∀ v ∈ vars, v.len % 4 = 0 ∧ 0 < v.len)
    (h : ncBegins fmt xsz vars (resolveAlign envH envV envR hMin argV vMin argR numFix false) 0 none = .ok L) :
    LayoutWF xsz vars (resolveAlign envH envV envR hMin argV vMin argR numFix false) none L :=
  begins_wf fmt xsz vars envH envV envR hMin argV vMin argR numFix 0 none L hlen (fun o ho => by cases ho) h

/-- the same with the variable lengths computed by the model of ncmpio_NC_var_shape64 from an
    arbitrary schema (any dimensions, any variable types and shapes the C accepts): no hypothesis on
    lengths is left -/
theorem begins_wf_schema (h : Hdr) (vars : List VarL) (hv : varsOf h = .ok vars)
    (envH envV envR hMin argV vMin argR numFix : Nat) (L : Layout)
    (hb : ncBegins h.fmt (Hdr.len h) vars (resolveAlign envH envV envR hMin argV vMin argR numFix false) 0 none = .ok L) :
    LayoutWF (Hdr.len h) vars (resolveAlign envH envV envR hMin argV vMin argR numFix false) none L :=
  begins_wf_fresh h.fmt (Hdr.len h) vars envH envV envR hMin argV vMin argR numFix L (varsOf_len h vars hv) hb

/-- ALL histories: create a file, then any number of rounds (define more variables …, enddef with any
    hints / ncmpi__enddef arguments, data mode, redef).  Every layout the successive NC_begins calls
    accept is well-formed — the hypothesis `OldOk` of `begins_wf` is never an assumption about the
    history: it is re-established by each round for the next (induction over the list of phases,
    unbounded length). -/
theorem history_wf (fmt : Fmt) (ps : List Phase) (steps : List Step)
    (hlen : ∀ p ∈ ps, ∀ v ∈ p.extra, v.len % 4 = 0 ∧ 0 < v.len)
    (h : runHistory fmt [] 0 none ps = .ok steps) :
    ∀ s ∈ steps, LayoutWF s.xsz s.vars s.al s.old s.L :=
  runHistory_wf fmt ps [] 0 none steps (fun v hv => by cases hv) hlen (fun _ o ho => by cases ho) h

/-- The header the library writes after NC_begins (`written h L`: the schema with the begins NC_begins
    computed) has a layout the format specification allows (`Schema.LayoutValid`: begins after the
    header, increasing in definition order, no overlap, record section after the fixed one) — for
    every schema of valid variables, every hint / ncmpi__enddef argument, new file or redefinition. -/
theorem written_file_valid (h : Hdr) (hv : ∀ v ∈ h.vars, VarValid h v)
    (envH envV envR hMin argV vMin argR numFix : Nat) (beginRec0 : Nat) (old : Option Old) (L : Layout)
    (hold : ∀ o, old = some o → OldOk (vlsOf h) o ∧ beginRec0 = o.beginRec)
    (hb : ncBegins h.fmt (Hdr.len h) (vlsOf h) (resolveAlign envH envV envR hMin argV vMin argR numFix old.isSome) beginRec0 old = .ok L) :
    (written h L).LayoutValid (Hdr.len (written h L)) :=
  written_layout_valid h hv _ old L
    (begins_wf h.fmt (Hdr.len h) (vlsOf h) envH envV envR hMin argV vMin argR numFix beginRec0 old L
      (varsOf_len h (vlsOf h) (varsOf_valid h hv)) hold hb)

/-- C03 closes onto C04: the file the library leaves behind (written header, then anything — data,
    padding, stale bytes) is decoded by the independent specification decoder to exactly the schema
    with the computed begins, and the library itself reads it back exactly for every read chunk
    size. -/
theorem written_file_reads_back (h : Hdr) (hv : ∀ v ∈ h.vars, VarValid h v)
    (envH envV envR hMin argV vMin argR numFix : Nat) (beginRec0 : Nat) (old : Option Old) (L : Layout)
    (hold : ∀ o, old = some o → OldOk (vlsOf h) o ∧ beginRec0 = o.beginRec)
    (hb : ncBegins h.fmt (Hdr.len h) (vlsOf h) (resolveAlign envH envV envR hMin argV vMin argR numFix old.isSome) beginRec0 old = .ok L)
    (he : Encodable (written h L)) (hl : Limits (written h L)) (rest : Bytes) (c : Nat) :
    Spec.specDecode (encodeRaw (written h L) ++ rest) = some (written h L) ∧
    ∃ info, decodeChunked c (encodeRaw (written h L) ++ rest) = .ok (written h L, info) ∧
      info.lens = (written h L).vars.map (written h L).varLen :=
  ⟨PnVerif.Props.C04.specDecode_encode _ rest he,
   PnVerif.Props.C04.valid_encoding_opens c _ rest he hl
     (written_file_valid h hv envH envV envR hMin argV vMin argR numFix beginRec0 old L hold hb)⟩

/-! C04's example header meets the hypotheses of `written_file_valid` -/
example : ∀ v ∈ PnVerif.Props.C04.exampleHdr.vars, VarValid PnVerif.Props.C04.exampleHdr v := by
  intro v hv
  simp only [PnVerif.Props.C04.exampleHdr, List.mem_cons, List.mem_nil_iff, or_false] at hv
  rcases hv with rfl | rfl <;>
    simp [VarValid, PnVerif.Props.C04.exampleHdr, Schema.isRecDim, Schema.nelems, Schema.dimFactor, NcType.size]

example : ncBegins .cdf1 (Hdr.len PnVerif.Props.C04.exampleHdr) (vlsOf PnVerif.Props.C04.exampleHdr)
    (resolveAlign 0 0 0 0 0 0 0 2 false) 0 none =
    .ok { xsz := 168, beginVar := 512, beginRec := 524, recsize := 3, fixedBegins := [512], recBegins := [524] } := by
  rfl

/-! ### the header extent reported after ncmpi_open (finding FB2-1)

  Full-strength statement: after opening any file, the reported header extent
  (ncmpi_inq_header_extent = ncp->begin_var) is at least the header size.  It is FALSE of the
  faithful model — and of the real library — for files without variables: compute_var_shape returns
  early and leaves begin_var = 0.  The harness replays the witness on the real library on every run. -/
def reportedExtent_Statement : Prop :=
  ∀ (file : Bytes) (h : Hdr) (info : Info), decodeWhole file = .ok (h, info) → info.xsz ≤ info.beginVar

/-- the smallest classic file: CDF-1, no dimension, no attribute, no variable (32 bytes) -/
def emptyFile : Bytes :=
  [0x43, 0x44, 0x46, 1, 0,0,0,0, 0,0,0,0, 0,0,0,0, 0,0,0,0, 0,0,0,0, 0,0,0,0, 0,0,0,0]

theorem reportedExtent_counterexample : ¬ reportedExtent_Statement := by
  intro hS
  have hd : decodeWhole emptyFile = .ok
      ({ fmt := .cdf1, numrecs := 0, dims := [], gatts := [], vars := [] },
       { xsz := 32, beginVar := 0, beginRec := 0, recsize := 0, numRecVars := 0, shapes := [], lens := [] }) := by rfl
  have := hS _ _ _ hd
  simp at this

/-- with at least one variable the reported extent does cover the header -/
theorem reportedExtent_partial (file : Bytes) (h : Hdr) (info : Info) (hd : decodeWhole file = .ok (h, info))
    (hv : h.vars ≠ []) : info.xsz ≤ info.beginVar :=
  postPass_extent h info (decodeWhole_post file h info hd) hv

/-- the code as it stands is the `false` variant -/
theorem decodeWholeV_false (file : Bytes) : decodeWholeV false file = decodeWhole file := by
  unfold decodeWholeV fixInfo
  cases decodeWhole file with
  | error e => rfl
  | ok p => obtain ⟨h, info⟩ := p; simp

theorem decodeWholeV_some {fixed : Bool} {file : Bytes} {h : Hdr} {info : Info}
    (hd : decodeWholeV fixed file = .ok (h, info)) :
    ∃ info0, decodeWhole file = .ok (h, info0) ∧ info = fixInfo fixed h info0 := by
  unfold decodeWholeV at hd
  split at hd
  · contradiction
  · cases hd; exact ⟨_, ‹_›, rfl⟩

/-- With the repair of FB2-1 (`decodeWholeV true`) the FULL statement holds: after opening any
    file the reported header extent is at least the header size. -/
theorem reportedExtent_fixed (file : Bytes) (h : Hdr) (info : Info)
    (hd : decodeWholeV true file = .ok (h, info)) : info.xsz ≤ info.beginVar := by
  obtain ⟨info0, hw, rfl⟩ := decodeWholeV_some hd
  unfold fixInfo
  by_cases hv : h.vars.length = 0
  · simp [hv]
  · simp only [hv, and_false, if_false]
    exact reportedExtent_partial file h info0 hw (fun hn => hv (by rw [hn]; rfl))

/-- the repair changes nothing else: same header, same lengths, same sizes, and for files with at
    least one variable the very same result; chunk independence carries over -/
theorem fixed_variant_conservative (fixed : Bool) (c : Nat) (file : Bytes) :
    decodeChunkedV fixed c file = decodeWholeV fixed file ∧
    (∀ h info, decodeWholeV fixed file = .ok (h, info) →
      ∃ info0, decodeWhole file = .ok (h, info0) ∧ info.lens = info0.lens ∧ info.xsz = info0.xsz ∧
        info.recsize = info0.recsize ∧ (h.vars ≠ [] → info = info0)) := by
  refine ⟨?_, ?_⟩
  · unfold decodeChunkedV decodeWholeV
    rw [PnVerif.Props.C04.chunk_independent]
  · intro h info hd
    obtain ⟨info0, hw, rfl⟩ := decodeWholeV_some hd
    refine ⟨info0, hw, ?_, ?_, ?_, ?_⟩ <;> unfold fixInfo
    · split <;> rfl
    · split <;> rfl
    · split <;> rfl
    · intro hne
      have : ¬ h.vars.length = 0 := fun h0l => hne (List.eq_nil_of_length_eq_zero h0l)
      simp [this]

/-! `reportedExtent_partial` is not vacuous -/
example : ∃ info, postPass PnVerif.Props.C04.exampleHdr = .ok info ∧ PnVerif.Props.C04.exampleHdr.vars ≠ [] :=
  ⟨{ xsz := 168, beginVar := 400, beginRec := 512, recsize := 3, numRecVars := 1, shapes := [[3], [0, 3]], lens := [12, 4] },
   by rfl, by simp [PnVerif.Props.C04.exampleHdr]⟩

/-! non-vacuity: a new CDF-1 file with two fixed-size and two record variables, default alignment;
    and its redefinition with one more fixed-size variable, v_minfree = 8, r_align = 128 -/
def exVars : List VarL :=
  [{ isRec := false, len := 12, packed := 12 }, { isRec := true, len := 8, packed := 6 },
   { isRec := false, len := 4, packed := 2 }, { isRec := true, len := 4, packed := 4 }]

example : ncBegins .cdf1 192 exVars (resolveAlign 0 0 0 0 0 0 0 4 false) 0 none =
    .ok { xsz := 192, beginVar := 512, beginRec := 528, recsize := 12, fixedBegins := [512, 524], recBegins := [528, 536] } := by
  rfl

def exOld : Old := { beginVar := 512, beginRec := 528, vars := [(false, 512), (true, 528), (false, 524), (true, 536)] }
def exVars2 : List VarL := exVars ++ [{ isRec := false, len := 24, packed := 24 }]

example : OldOk exVars2 exOld := by
  constructor
  · decide
  · decide
  · exact ⟨2, by decide⟩
  · decide

example : ncBegins .cdf1 228 exVars2 (resolveAlign 0 0 0 0 64 8 128 3 true) 528 (some exOld) =
    .ok { xsz := 228, beginVar := 512, beginRec := 640, recsize := 12, fixedBegins := [512, 524, 528], recBegins := [640, 648] } := by
  rfl

example : (runHistory .cdf1 [] 0 none
    [{ xsz := 192, extra := exVars, envH := 0, envV := 0, envR := 0, hMin := 0, argV := 0, vMin := 0, argR := 0 },
     { xsz := 228, extra := [{ isRec := false, len := 24, packed := 24 }], envH := 0, envV := 0, envR := 0,
       hMin := 0, argV := 64, vMin := 8, argR := 128 }]).toOption.map (fun ss => ss.map (fun s => (s.L.fixedBegins, s.L.recBegins))) =
    some [([512, 524], [528, 536]), ([512, 524, 528], [640, 648])] := by
  rfl

def obligations : List String := [
  "header_size_is_bytes_written", "written_header_decodes", "alignments_resolved", "begins_wf", "begins_wf_fresh",
  "begins_wf_schema", "history_wf", "written_file_valid", "written_file_reads_back", "reportedExtent_counterexample", "reportedExtent_partial",
  "reportedExtent_fixed", "fixed_variant_conservative", "decodeWholeV_false"
]
end PnVerif.Props.C03
