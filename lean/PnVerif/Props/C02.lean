import PnVerif.Lemmas.MergeLemmas
import PnVerif.Lemmas.ReqQueueFixed
import PnVerif.Lemmas.FlattenLemmas
import PnVerif.Props.C01
/-
  C02 — nonblocking request aggregation is equivalent to blocking execution: the sort → merge →
  coalesce pipeline of an interleaved group (`merge_requests`, `type_create_off_len` of ncmpio_wait.c;
  Model/Merge.lean), the pending-request queues (Model/ReqQueue.lean), vars_flatten and the buffer
  type of mgetput (Model/Flatten.lean).
-/
namespace PnVerif.Props.C02
open PnVerif PnVerif.Merge

/-- `merge_spec`.  For ANY input sorted by offset (positive lengths) the merge loop's output
    is sorted and pairwise non-overlapping (each segment ends before the next starts), has positive
    lengths, and maps every file byte to the buffer byte of the FIRST input segment containing it
    (`lookup` = none exactly for the bytes outside the union of the input ranges); the two
    coalesced hindexed datatypes built from it transfer exactly those (file byte, buffer byte)
    pairs. -/
theorem merge_spec (l : List Seg) (hs : Sorted l) (hp : Pos l) :
    Disj (mergeSegs l) ∧ Pos (mergeSegs l) ∧
    (∀ b, lookup (mergeSegs l) b = lookup l b) ∧
    (∀ b a, (b, a) ∈ transfer (mergeSegs l) ↔ lookup l b = some a) := by
  have ho := mergeSegs_out l hp
  refine ⟨ho.2, ho.1, mergeSegs_lookup l hs hp, ?_⟩
  intro b a
  rw [transfer_eq_pairs _ (fun s h => Int.le_of_lt (ho.1 s h)), mem_pairs_iff_lookup _ ho.2 ho.1,
      mergeSegs_lookup l hs hp]

/-- the sort step of merge_requests yields a sorted permutation (so `merge_spec` applies to it) -/
theorem sort_spec (l : List Seg) : Sorted (sortStep l) ∧ (sortStep l).Perm l :=
  ⟨sortStep_sorted l, sortStep_perm l⟩

/-- coalescing (both passes of type_create_off_len) never changes which bytes are moved where:
    the k-th byte of the buffer type and of the file type are the k-th (file, buffer) byte of
    the segment list, for every segment list with non-negative lengths. -/
theorem coalesce_preserves_map (l : List Seg) (hp : ∀ s ∈ l, 0 ≤ s.len) : transfer l = pairs l :=
  transfer_eq_pairs l hp

/-- `merge_disjoint_identity`.  On a sorted, pairwise non-overlapping pending set the merge loop
    moves exactly the byte pairs of the individual requests, in the same order: nothing is dropped,
    trimmed or reordered — only block boundaries change (contiguous neighbours are fused). -/
theorem merge_disjoint_identity (l : List Seg) (hp : Pos l) (hd : Disj l) :
    transfer (mergeSegs l) = pairs l := by
  rw [transfer_eq_pairs _ (fun s h => Int.le_of_lt ((mergeSegs_out l hp).1 s h)), mergeSegs_disjoint l hp hd]

/-- whole pipeline, any posting order: for a write-disjoint set of segments the aggregated
    transfer is a permutation of the union of the individual transfers -/
theorem aggregate_disjoint (l : List Seg) (hp : Pos l) (hd : SymDisj l) :
    (transfer (mergeRequests l)).Perm (pairs l) := by
  have hperm := sortStep_perm l
  obtain ⟨hp', hdisj⟩ := sorted_perm_disj hperm (sortStep_sorted l) hp hd
  unfold mergeRequests
  rw [merge_disjoint_identity _ hp' hdisj]
  exact pairs_perm _ _ hperm

/-- non-vacuity of `aggregate_disjoint`: an interleaved, write-disjoint group (two column requests of
    a 2-row array) -/
example : Pos [⟨0, 2, 0⟩, ⟨8, 2, 2⟩, ⟨2, 2, 40⟩, ⟨10, 2, 42⟩] ∧ SymDisj [⟨0, 2, 0⟩, ⟨8, 2, 2⟩, ⟨2, 2, 40⟩, ⟨10, 2, 42⟩] := by
  unfold Pos SymDisj; decide
example : mergeRequests [⟨0, 2, 0⟩, ⟨8, 2, 2⟩, ⟨2, 2, 40⟩, ⟨10, 2, 42⟩] = [⟨0, 2, 0⟩, ⟨2, 2, 40⟩, ⟨8, 2, 2⟩, ⟨10, 2, 42⟩] := by decide
/-- non-vacuity of `merge_spec` -/
example : Sorted [⟨0, 10, 0⟩, ⟨2, 10, 50⟩, ⟨5, 8, 200⟩] ∧ Pos [⟨0, 10, 0⟩, ⟨2, 10, 50⟩, ⟨5, 8, 200⟩] := by
  unfold Sorted Pos; decide

/-! #### F13: reads may overlap, but the merge drops the overlapped part of the later request -/

/-- what the property demands of a READ group: every byte of every request's buffer is filled
    from the file byte it asked for -/
def read_fills_all_Statement : Prop :=
  ∀ l : List Seg, Sorted l → Pos l → ∀ s ∈ l, ∀ k : Nat, (k : Int) < s.len →
    (s.off + k, s.buf + k) ∈ transfer (mergeSegs l)

/-- two identical read requests with different buffers: the second buffer is never written -/
theorem read_fills_all_counterexample : ¬ read_fills_all_Statement := by
  intro h
  have := h [⟨0, 4, 0⟩, ⟨0, 4, 100⟩] (by unfold Sorted; decide) (by unfold Pos; decide)
    ⟨0, 4, 100⟩ (by simp) 0 (by decide)
  revert this
  decide

/-- holds exactly when the requests of the group do not overlap in the file -/
theorem read_fills_all_partial (l : List Seg) (hp : Pos l) (hd : Disj l) :
    ∀ s ∈ l, ∀ k : Nat, (k : Int) < s.len → (s.off + k, s.buf + k) ∈ transfer (mergeSegs l) := by
  intro s hs k hk
  rw [merge_disjoint_identity l hp hd, mem_pairs]
  exact ⟨s, hs, by omega, by omega, by omega⟩

/-- non-vacuity of `read_fills_all_partial` -/
example : Pos [⟨0, 4, 0⟩, ⟨4, 4, 100⟩] ∧ Disj [⟨0, 4, 0⟩, ⟨4, 4, 100⟩] := by
  unfold Pos Disj; decide

/-! The pending-request queues.  `Inv` and the other notions of the statements below are defined at
  the head of Lemmas/ReqQueueLemmas.lean. -/
open PnVerif.ReqQueue

/-- what the invariant of one queue means in terms of its raw C-like fields -/
structure RawInv (q : Q) (par : Int) : Prop where
  lead : q.lead = canonLeads 0 q.view
  nonlead : q.nonlead = canonNL 0 q.view
  numLead : q.numLead = q.lead.length
  numReqs : q.numReqs = q.nonlead.length
  distinct : List.Pairwise (fun a b => a.c.id ≠ b.c.id) q.view
  ids : ∀ e ∈ q.view, e.c.id % 2 = par ∧ 0 ≤ e.c.id ∧ e.c.id ≤ q.maxId
  clean : ∀ e ∈ q.view, e.c.toFree = false
  noEmpty : ∀ e ∈ q.view, e.subs ≠ []

theorem rawInv_of_qinv {q : Q} {par : Int} {v : List Entry} (h : QInv q par v) : RawInv q par := by
  have hv := rep_view _ _ h.rep
  refine ⟨hv ▸ h.rep.lead, hv ▸ h.rep.nonlead, ?_, ?_, hv ▸ h.distinct, hv ▸ h.ids, hv ▸ h.clean, hv ▸ h.noEmpty⟩
  · rw [h.rep.numLead, h.rep.lead, canonLeads_length]
  · rw [h.rep.numReqs, h.rep.nonlead, canonNL_length]

theorem queue_inv_meaning (nc : NC) (h : Inv nc) : RawInv nc.put 0 ∧ RawInv nc.get 1 :=
  let ⟨_, _, hP, hG⟩ := h
  ⟨rawInv_of_qinv hP, rawInv_of_qinv hG⟩

/-- operations of the nonblocking API on one process -/
inductive Op
  | post (isPut sorted : Bool) (varBegin reqOff abuf : Int) (tag : Nat) (subs : List Sub) (maxRec : Int)
  | wait (num : Int) (ids : List Int) (st : Option (List Int))
  | cancel (num : Int) (ids : List Int) (st : Option (List Int))

/-- `V` = which variant of the three repairable code sites the tree has (Model.ReqQueue.Variant;
    `{}` = the code as found) -/
def step (V : Variant) (nc : NC) : Op → NC
  | .post true s vb ro ab tag subs mr => { nc with put := (nc.put.post 0 s vb ro ab tag subs mr).1 }
  | .post false s vb ro ab tag subs mr => { nc with get := (nc.get.post 1 s vb ro ab tag subs mr).1 }
  | .wait num ids st => (ReqQueue.wait nc num ids st V).nc
  | .cancel num ids st => (ReqQueue.cancel nc num ids st).nc

/-- a posted request has at least one non-lead request (zero-length requests return NC_REQ_NULL
    before anything is queued; a record request has count[0] ≥ 1 records) -/
def wellFormed : Op → Prop
  | .post _ _ _ _ _ _ subs _ => subs ≠ []
  | _ => True

/-- the operation is not a wait that extract_reqs refuses with NC_EINVAL_REQUEST -/
def notRefused (V : Variant) (nc : NC) : Op → Prop
  | .wait num ids st => (ReqQueue.wait nc num ids st V).err = NC_NOERR
  | _ => True

def run (V : Variant) : NC → List Op → NC
  | nc, [] => nc
  | nc, op :: ops => run V (step V nc op) ops

def Admissible (V : Variant) : NC → List Op → Prop
  | _, [] => True
  | nc, op :: ops => wellFormed op ∧ notRefused V nc op ∧ Admissible V (step V nc op) ops

theorem inv_init {numrecs : Int} : Inv { numrecs := numrecs } :=
  ⟨[], [], QInv.empty _ _ ⟨rfl, rfl, rfl, rfl⟩, QInv.empty _ _ ⟨rfl, rfl, rfl, rfl⟩⟩

theorem step_inv (V : Variant) (nc : NC) (h : Inv nc) (op : Op) (hw : wellFormed op)
    (hr : notRefused V nc op ∨ V.clearOnRefusal = true) : Inv (step V nc op) := by
  cases op with
  | post isPut s vb ro ab tag subs mr =>
    obtain ⟨vP, vG, hP, hG⟩ := h
    cases isPut with
    | true => exact ⟨_, vG, post_inv nc.put 0 vP hP 0 (by decide) s vb ro ab tag subs mr hw, hG⟩
    | false => exact ⟨vP, _, hP, post_inv nc.get 1 vG hG 1 (by decide) s vb ro ab tag subs mr hw⟩
  | wait num ids st => exact hr.elim (wait_inv nc h num ids st V) (wait_inv_fixed nc h num ids st V)
  | cancel num ids st => exact cancel_inv nc h num ids st

/-- `queue_inv` (partial; every code variant): the invariant holds after EVERY history of posts,
    waits (all forms: explicit lists, NC_REQ_ALL / NC_GET_REQ_ALL / NC_PUT_REQ_ALL, the three
    shortcuts) and cancels of any length in which no wait is refused with NC_EINVAL_REQUEST. -/
theorem queue_inv_partial (V : Variant) (ops : List Op) :
    ∀ (nc : NC), Inv nc → Admissible V nc ops → Inv (run V nc ops) := by
  induction ops with
  | nil => intro nc h _; exact h
  | cons op ops ih =>
    intro nc h ha
    exact ih (step V nc op) (step_inv V nc h op ha.1 (Or.inl ha.2.1)) ha.2.2

/-- the full statement: without the "no refused wait" hypothesis -/
def queue_inv_Statement (V : Variant) : Prop :=
  ∀ ops : List Op, (∀ op ∈ ops, wellFormed op) → Inv (run V {} ops)

/-- `queue_inv` in full for the repaired refusal path (F19 fixed): all histories -/
theorem queue_inv_fixed (V : Variant) (hV : V.clearOnRefusal = true) : queue_inv_Statement V := by
  intro ops
  suffices H : ∀ (nc : NC), Inv nc → (∀ op ∈ ops, wellFormed op) → Inv (run V nc ops) from H {} inv_init
  induction ops with
  | nil => intro nc h _; exact h
  | cons op ops ih =>
    intro nc h hw
    exact ih _ (step_inv V nc h op (hw _ List.mem_cons_self) (Or.inr hV)) fun o ho => hw o (List.mem_cons_of_mem _ ho)

private def sub1 : Sub := { tag := 0, nelems := 1, xoff := 0 }
/-- put A (id 0), put B (id 2), get G (id 1); wait_all(2,[A,998]) is refused but leaves
    NC_REQ_TO_FREE on A; wait_all(1,[B]) then frees A as well and leaves numPutReqs = 1 with an
    empty queue (F19) -/
def f19History : List Op :=
  [.post true true 100 100 (-1) 0 [sub1] (-1), .post true true 200 200 (-1) 1 [sub1] (-1),
   .post false false 100 100 (-1) 2 [sub1] (-1),
   .wait 2 [0, 998] (some [777, 777]), .wait 1 [2] (some [777])]

/-- the code as found (F19) -/
theorem queue_inv_counterexample : ¬ queue_inv_Statement {} := by
  intro h
  have hi := h f19History (by intro op hop; simp [f19History] at hop; rcases hop with rfl | rfl | rfl | rfl | rfl <;> simp [wellFormed, sub1])
  have hm := (queue_inv_meaning _ hi).1
  have h1 : (run {} {} f19History).put.numReqs = 1 := by decide
  have h2 : (run {} {} f19History).put.nonlead = [] := by decide
  have := hm.numReqs
  rw [h1, h2] at this
  simp at this

/-- non-vacuity of `queue_inv_partial`: a history with a sorted insertion in the middle, a subset
    wait, a shortcut wait and a cancel is admissible -/
example : Admissible {} {} [.post true true 300 300 (-1) 0 [sub1, sub1] (-1), .post true true 100 100 (-1) 1 [sub1] (-1),
                         .post false false 100 100 (-1) 2 [sub1] (-1), .wait 2 [2, -1] (some [777, 777]),
                         .cancel 1 [1] none, .wait (-1) [] none] := by
  -- per operation: its sub-request list is not empty, and it is no refused wait (evaluated)
  exact ⟨List.cons_ne_nil _ _, trivial, List.cons_ne_nil _ _, trivial, List.cons_ne_nil _ _, trivial,
    trivial, by unfold notRefused; decide, trivial, trivial, trivial, by unfold notRefused; decide, trivial⟩

/-- a refused wait is harmless: the invariant still holds and the same requests are pending with the
    same non-lead requests -/
def refused_wait_harmless_Statement (V : Variant) : Prop :=
  ∀ nc : NC, Inv nc → ∀ num ids st, (ReqQueue.wait nc num ids st V).err ≠ NC_NOERR →
    Inv (ReqQueue.wait nc num ids st V).nc ∧
    (ReqQueue.wait nc num ids st V).nc.put.view.map (fun e => (e.c.id, e.subs)) = nc.put.view.map (fun e => (e.c.id, e.subs)) ∧
    (ReqQueue.wait nc num ids st V).nc.get.view.map (fun e => (e.c.id, e.subs)) = nc.get.view.map (fun e => (e.c.id, e.subs))

/-- false of the code as found (F19): NC_REQ_TO_FREE stays set on the valid requests -/
theorem refused_wait_harmless_counterexample : ¬ refused_wait_harmless_Statement {} := by
  intro h
  have hi : Inv (run {} {} (f19History.take 3)) :=
    queue_inv_partial {} _ {} inv_init (by simp [f19History, Admissible, wellFormed, notRefused, sub1])
  have h1 := (h _ hi 2 [0, 998] (some [777, 777]) (by decide)).1
  have := ((queue_inv_meaning _ h1).1.clean ⟨{ id := 0, varBegin := 100, toFree := true, abufIndex := -1, status := some 0, maxRec := -1, tag := 0 }, [sub1]⟩ (by decide))
  simp at this

/-- true once the refusal path clears the marks (F19 fixed) -/
theorem refused_wait_harmless_fixed (V : Variant) (hV : V.clearOnRefusal = true) : refused_wait_harmless_Statement V := by
  intro nc h num ids st herr
  refine ⟨wait_inv_fixed nc h num ids st V hV, ?_⟩
  obtain ⟨vP, vG, hP, hG⟩ := h
  have hw := wait_refused_fixed hP hG hV (subsetPath_of_refused herr) herr
  rw [rep_view _ _ hw.1.rep, rep_view _ _ hw.2.1.rep, rep_view _ _ hP.rep, rep_view _ _ hG.rep]
  simp [List.map_map, Function.comp_def, clearE]

/-- `wait_exact` / `status_by_id` / `ids_nulled` (partial: no shortcut of extract_reqs fires; every
    code variant).  A successful wait on an explicit id list
    * leaves exactly the requests NOT named pending, in the same order and unchanged (core fields
      and the payload of every non-lead request),
    * completes exactly the named ones, each once (`donePut`/`doneGet` = the named requests in
      queue order), every completed lead carries NC_REQ_TO_FREE,
    * sets every entry of req_ids[] to NC_REQ_NULL,
    * when statuses[] is given, the status pointer of a completed request refers to a slot i with
      req_ids[i] = its id,
    * and the invariant holds again. -/
theorem wait_exact_partial (V : Variant) (nc : NC) (h : Inv nc) (num : Int) (ids : List Int) (st : Option (List Int))
    (hsub : SubsetPath nc num ids st V) (herr : (ReqQueue.wait nc num ids st V).err = NC_NOERR) :
    WaitExact nc ids st (ReqQueue.wait nc num ids st V) ∧
    (ReqQueue.wait nc num ids st V).donePut.map (fun l => l.c.id)
        = (nc.put.view.filter (fun e => decide (e.c.id ∈ ids))).map (fun e => e.c.id) ∧
    (ReqQueue.wait nc num ids st V).doneGet.map (fun l => l.c.id)
        = (nc.get.view.filter (fun e => decide (e.c.id ∈ ids))).map (fun e => e.c.id) ∧
    Inv (ReqQueue.wait nc num ids st V).nc := by
  obtain ⟨vP, vG, hP, hG⟩ := h
  have hw := wait_subset hP hG hsub herr
  rw [rep_view _ _ hP.rep, rep_view _ _ hG.rep]
  exact ⟨.of_done hP hG hw.put hw.get hw.nulled, hw.donePut, hw.doneGet, _, _, hw.put.inv, hw.get.inv⟩

/-- the full statement of `wait_exact` + `status_by_id` + `ids_nulled`: for EVERY successful wait
    on an explicit list -/
def wait_exact_Statement (V : Variant) : Prop :=
  ∀ nc : NC, Inv nc → ∀ (ids : List Int) (st : Option (List Int)),
    (ReqQueue.wait nc ids.length ids st V).err = NC_NOERR →
    WaitExact nc ids st (ReqQueue.wait nc ids.length ids st V)

/-- code as found, F4b: two puts A (id 0), B (id 2) pending; wait_all(2,[A,NC_REQ_NULL]) completes B as well -/
theorem wait_exact_counterexample : ¬ wait_exact_Statement {} := by
  intro h
  have hi : Inv (run {} {} (f19History.take 2)) :=
    queue_inv_partial {} _ {} inv_init (by simp [f19History, Admissible, wellFormed, notRefused, sub1])
  have := (h _ hi [0, -1] (some [777, 777]) (by decide)).1
  revert this
  decide

/-- code as found, F4a: two gets A (id 1), B (id 3) pending; wait_all(2,[B,A],st): A's status pointer
    is &st[0] although req_ids[0] = B -/
theorem status_by_id_counterexample : ¬ wait_exact_Statement {} := by
  intro h
  have hi : Inv (run {} {} [.post false false 100 100 (-1) 0 [sub1] (-1), .post false false 200 200 (-1) 1 [sub1] (-1)]) :=
    queue_inv_partial {} _ {} inv_init (by simp [Admissible, wellFormed, notRefused, sub1])
  have := (h _ hi [3, 1] (some [777, 777]) (by decide)).2.2.2
    ⟨{ id := 1, varBegin := 100, toFree := true, abufIndex := -1, status := some 0, maxRec := -1, tag := 0 }, 0, 1⟩ (by decide)
  obtain ⟨i, hi1, hi2⟩ := this.2 rfl
  simp at hi1
  subst hi1
  simp at hi2

/-- true once the shortcuts also compare req_ids[] with the queue (F4 fixed) -/
theorem wait_exact_all_fixed (V : Variant) (hV : V.shortcutChecksIds = true) : wait_exact_Statement V :=
  fun nc h ids st herr => wait_exact_fixed nc h ids st V hV herr

/-- non-vacuity of `wait_exact_partial`: a subset wait naming the middle one of three puts while a
    get is pending takes the subset path and succeeds -/
example : SubsetPath (run {} {} [.post true true 100 100 (-1) 0 [sub1] (-1), .post true true 200 200 (-1) 1 [sub1] (-1),
                              .post true true 300 300 (-1) 2 [sub1] (-1), .post false false 100 100 (-1) 3 [sub1] (-1)])
                     1 [2] (some [777]) ∧
    (ReqQueue.wait (run {} {} [.post true true 100 100 (-1) 0 [sub1] (-1), .post true true 200 200 (-1) 1 [sub1] (-1),
                              .post true true 300 300 (-1) 2 [sub1] (-1), .post false false 100 100 (-1) 3 [sub1] (-1)])
                   1 [2] (some [777])).err = NC_NOERR := by
  constructor
  · unfold SubsetPath; decide
  · decide

/-- NC_REQ_ALL / NC_GET_REQ_ALL / NC_PUT_REQ_ALL complete every pending request of the kind -/
theorem wait_all_spec (nc : NC) (h : Inv nc) (ids : List Int) (st : Option (List Int)) :
    (ReqQueue.wait nc NC_REQ_ALL ids st).nc.put.view = [] ∧ (ReqQueue.wait nc NC_REQ_ALL ids st).nc.get.view = [] ∧
    (ReqQueue.wait nc NC_PUT_REQ_ALL ids st).nc.put.view = [] ∧ (ReqQueue.wait nc NC_PUT_REQ_ALL ids st).nc.get = nc.get ∧
    (ReqQueue.wait nc NC_GET_REQ_ALL ids st).nc.get.view = [] ∧ (ReqQueue.wait nc NC_GET_REQ_ALL ids st).nc.put = nc.put := by
  obtain ⟨vP, vG, hP, hG⟩ := h
  have hw : ∀ {num : Int} (hc : IsConst num), _ :=
    fun {num} hc => wait_whole (extract_const nc ids st {} (num := num) hc)
      (fun _ => length_of_ite_some) (fun _ => length_of_ite_some)
      (lead_length_of_rep hP.rep) (lead_length_of_rep hG.rep)
  have e0 : ∀ q : Q, q.clear.view = [] := fun q => rep_view _ _ (clear_rep q)
  obtain ⟨-, a1, -, a2, -⟩ := hw (Or.inl rfl)
  obtain ⟨-, p1, -, p2, -⟩ := hw (Or.inr (Or.inr rfl))
  obtain ⟨-, g1, -, g2, -⟩ := hw (Or.inr (Or.inl rfl))
  rw [a1, a2, p1, p2, g1, g2]
  exact ⟨e0 _, e0 _, e0 _, rfl, e0 _, rfl⟩

/-- `cancel_spec`: ncmpi_cancel on an explicit id list removes exactly the named pending requests
    (whatever else the list contains: NC_REQ_NULL, unknown or repeated ids), everything else stays
    pending in the same order and unchanged; with one of the three constants the queue(s) are
    emptied; the invariant is kept in every case. -/
theorem cancel_spec (nc : NC) (h : Inv nc) (num : Int) (ids : List Int) (st : Option (List Int)) :
    Inv (ReqQueue.cancel nc num ids st).nc ∧
    (0 < num →
      (ReqQueue.cancel nc num ids st).nc.put.view = nc.put.view.filter (fun e => decide (e.c.id ∉ ids)) ∧
      (ReqQueue.cancel nc num ids st).nc.get.view = nc.get.view.filter (fun e => decide (e.c.id ∉ ids))) ∧
    (num = NC_REQ_ALL → (ReqQueue.cancel nc num ids st).nc.put.view = [] ∧ (ReqQueue.cancel nc num ids st).nc.get.view = []) := by
  refine ⟨cancel_inv nc h num ids st, ?_, ?_⟩
  · intro hpos
    obtain ⟨vP, vG, hP, hG⟩ := h
    have hc := cancel_pos hP hG hpos ids st
    rw [rep_view _ _ hP.rep, rep_view _ _ hG.rep]
    exact ⟨rep_view _ _ hc.1.rep, rep_view _ _ hc.2.rep⟩
  · intro hall
    subst hall
    have hc : (ReqQueue.cancel nc NC_REQ_ALL ids st).nc = { nc with put := nc.put.clear, get := nc.get.clear } := rfl
    rw [hc]
    exact ⟨rep_view _ _ (clear_rep _), rep_view _ _ (clear_rep _)⟩

/-- `post_spec`: a post inserts the new request (fresh id of the right parity: 0/1 on an empty queue,
    max…ReqID + 2 otherwise) at the position the begin-sorted insertion selects (or at the end for
    iget_var*), leaves every other pending request unchanged and keeps the invariant. -/
theorem post_spec (nc : NC) (h : Inv nc) (sorted : Bool) (varBegin reqOff abuf : Int) (tag : Nat)
    (subs : List Sub) (maxRec : Int) (hsubs : subs ≠ []) :
    let r := nc.put.post 0 sorted varBegin reqOff abuf tag subs maxRec
    let p := postPos nc.put sorted reqOff
    r.1.view = nc.put.view.take p ++ [⟨{ id := r.2, varBegin := varBegin, abufIndex := abuf, maxRec := maxRec, tag := tag }, subs⟩]
                 ++ nc.put.view.drop p ∧
    r.2 = (if nc.put.numLead = 0 then 0 else nc.put.maxId + 2) ∧
    (∀ e ∈ nc.put.view, e.c.id ≠ r.2) ∧
    (sorted = true → (∀ e ∈ nc.put.view.drop p, e.c.varBegin > reqOff) ∧
                     (∀ e, (nc.put.view.take p).getLast? = some e → e.c.varBegin ≤ reqOff)) ∧
    Inv (step {} nc (.post true sorted varBegin reqOff abuf tag subs maxRec)) := by
  intro r p
  have hstep := step_inv {} nc h (.post true sorted varBegin reqOff abuf tag subs maxRec) hsubs (Or.inl trivial)
  obtain ⟨vP, vG, hP, hG⟩ := h
  have hq := post_inv nc.put 0 vP hP 0 (by decide) sorted varBegin reqOff abuf tag subs maxRec hsubs
  have hv := rep_view _ _ hP.rep
  have hr2 : r.2 = postId nc.put 0 := rfl
  refine ⟨?_, ?_, ?_, ?_, hstep⟩
  · rw [rep_view _ _ hq.rep, hv, hr2]; rfl
  · rw [hr2]; rfl
  · intro e he
    rw [hv] at he
    exact hr2 ▸ Int.ne_of_lt ((postId_spec hP (by decide)).2.2 e he)
  · intro hs
    subst hs
    have hsp := insPos_spec nc.put.lead reqOff
    have hpp : p = insPos nc.put.lead reqOff := by simp [p, postPos]
    -- the lead at the same position has the same core
    have hcore : nc.put.lead.map (fun l => l.c) = nc.put.view.map (fun e => e.c) := by
      simp [Q.view, List.map_map, Function.comp_def]
    rw [hpp]
    constructor
    · intro e he
      have hm : e.c ∈ (nc.put.lead.drop (insPos nc.put.lead reqOff)).map (fun l => l.c) := by
        rw [List.map_drop, hcore, ← List.map_drop]; exact List.mem_map_of_mem he
      obtain ⟨l, hl1, hl2⟩ := List.mem_map.mp hm
      exact hl2 ▸ hsp.1 l hl1
    · intro e he
      have hm := congrArg (fun x => List.getLast? (List.take (insPos nc.put.lead reqOff) x)) hcore
      simp only [← List.map_take, List.getLast?_map, he, Option.map_some] at hm
      obtain ⟨l, hl1, hl2⟩ := Option.map_eq_some_iff.mp hm
      exact hl2 ▸ hsp.2 l hl1

/-! ### numrecs after a wait (F21) and the record split of varn (F20) -/

/-- what the blocking calls do: after a wait the record count is the maximum of the old count and
    the `max_rec` of every put the wait completed -/
def numrecs_Statement (V : Variant) : Prop :=
  ∀ nc : NC, Inv nc → 0 ≤ nc.numrecs → ∀ num ids st, (ReqQueue.wait nc num ids st V).err = NC_NOERR →
    (ReqQueue.wait nc num ids st V).nc.numrecs = maxRecOf nc.numrecs (ReqQueue.wait nc num ids st V).donePut

/-- code as found, F21: put to a fixed variable (queued first), put to record 3 (max_rec 4), a pending
    get; wait_all(1,[id of the record put]) leaves numrecs = 3 -/
theorem numrecs_counterexample : ¬ numrecs_Statement {} := by
  intro h
  have hi : Inv (run {} { numrecs := 3 } [.post true true 100 100 (-1) 0 [sub1] (-1), .post true true 200 968 (-1) 1 [sub1] 4,
                                       .post false false 100 100 (-1) 2 [sub1] (-1)]) :=
    queue_inv_partial {} _ _ inv_init
      (by simp [Admissible, wellFormed, notRefused, sub1])
  have := h _ hi (by decide) 1 [2] (some [777]) (by decide)
  revert this
  decide

/-- `numrecs_partial` (every code variant): whenever the wait does not take the subset path —
    NC_REQ_ALL / NC_GET_REQ_ALL / NC_PUT_REQ_ALL and the three shortcuts, where every pending put
    is extracted and the loop bound covers the whole queue — the record count is right -/
theorem numrecs_partial (V : Variant) (nc : NC) (h : Inv nc) (h0 : 0 ≤ nc.numrecs) (num : Int) (ids : List Int)
    (st : Option (List Int)) (hns : ¬ SubsetPath nc num ids st V) :
    (ReqQueue.wait nc num ids st V).nc.numrecs = maxRecOf nc.numrecs (ReqQueue.wait nc num ids st V).donePut :=
  numrecs_nonsubset nc h h0 num ids st V hns

/-- true for every successful wait once req_commit scans all `numLeadPutReqs` leads (F21 fixed) -/
theorem numrecs_fixed (V : Variant) (hV : V.numrecsAllLeads = true) : numrecs_Statement V := by
  intro nc h h0 num ids st herr
  by_cases hsub : SubsetPath nc num ids st V
  · obtain ⟨vP, vG, hP, hG⟩ := h
    exact wait_subset_numrecs hP hG hsub herr hV h0
  · exact numrecs_nonsubset nc h h0 num ids st V hsub

/-- non-vacuity of the fixed variant on the witness of F21: numrecs becomes 4 -/
example : (ReqQueue.wait (run {} { numrecs := 3 } [.post true true 100 100 (-1) 0 [sub1] (-1), .post true true 200 968 (-1) 1 [sub1] 4,
                                                  .post false false 100 100 (-1) 2 [sub1] (-1)])
            1 [2] (some [777]) { numrecsAllLeads := true }).nc.numrecs = 4 := by decide

/-- `record_split`: splitting a record-variable request into one request per record (both the
    varm path and the varn path, ncmpio_add_record_requests) yields `k` pieces of `nelems / k`
    elements whose buffers tile the request's buffer back to back, for every record count `k` -/
theorem record_split (tag : Nat) (nelems xoff xsz : Int) (k : Nat) (hk : 0 < k) :
    splitVarn tag nelems xoff xsz k = exactSplit tag nelems xoff xsz k ∧
    splitVarm tag nelems xsz k = exactSplit tag nelems 0 xsz k := by
  by_cases h1 : 1 < k
  · simp [splitVarn, splitVarm, exactSplit, addRecordRequests, h1]
  · have : k = 1 := by omega
    subst this
    simp [splitVarn, splitVarm, exactSplit]

/-- the pieces of a split tile the buffer: piece i starts where piece i-1 ends -/
theorem record_split_tiles (tag : Nat) (nelems xoff xsz : Int) (k : Nat) (i : Nat) (hi : i + 1 < k) :
    ∃ a b, (exactSplit tag nelems xoff xsz k)[i]? = some a ∧ (exactSplit tag nelems xoff xsz k)[i + 1]? = some b ∧
      b.xoff = a.xoff + a.nelems * xsz := by
  unfold exactSplit
  simp only [List.getElem?_map, List.getElem?_range (show i < k by omega), List.getElem?_range hi, Option.map_some]
  refine ⟨_, _, rfl, rfl, ?_⟩
  simp only [Int.natCast_add, Int.cast_ofNat_Int, Int.add_mul]
  omega

open PnVerif.Access PnVerif.Flatten

/-- `varsFlatten_offsets`: for every array shape, element size, start/count/stride (any number of
    dimensions ≥ 1, all counts ≥ 1 — vars_flatten returns no segment otherwise) the (offset, length)
    list emitted by vars_flatten expands to exactly the file offsets of the request's elements, in
    row-major request order (`elemOff` = the format's element address on the array that starts at
    `offset`; merge_requests passes the record's start for record variables). -/
theorem varsFlatten_offsets (el offset : Nat) (dimlen s c k : List Nat)
    (h1 : s.length = c.length) (h2 : s.length = k.length) (h3 : s.length = dimlen.length)
    (hne : s ≠ []) (hel : 0 < el) (hpos : ∀ x ∈ c, 0 < x) :
    expandBlocks el (varsFlattenOffs el offset dimlen s c k).1 (varsFlattenOffs el offset dimlen s c k).2
      = (enumIdx s c k).map (elemOff { begin := offset, xsz := el, shape := dimlen, isRec := false, recsize := 0 }) := by
  have hcne : c ≠ [] := by
    intro hc; rw [hc] at h1; exact hne (List.length_eq_zero_iff.mp h1)
  rw [varsFlattenOffs_eq el offset dimlen s c k hpos hcne]
  simp only
  rw [expandBlocks_shift]
  exact PnVerif.Props.C01.strideFlatten_offsets
    { begin := offset, xsz := el, shape := dimlen, isRec := false, recsize := 0 } s c k h1 h2 h3 hne hel
    (by intro h; exact absurd h (by simp))

/-- the segments carry the common length and consecutive buffer addresses: segment i reads/writes
    buffer bytes [buf_addr + i*seg_len, buf_addr + (i+1)*seg_len), offsets as in `varsFlatten_offsets` -/
theorem varsFlatten_segs (el offset : Nat) (dimlen : List Nat) (bufAddr : Int) (s c k : List Nat)
    (hd : dimlen.length ≠ 0) :
    let r := varsFlattenOffs el offset dimlen s c k
    (varsFlatten el offset dimlen bufAddr s c k).map (fun g => g.off) = r.1.map (fun (o : Nat) => (o : Int)) ∧
    ∀ (i : Nat) (g : Merge.Seg), (varsFlatten el offset dimlen bufAddr s c k)[i]? = some g →
      g.len = (r.2 : Int) ∧ g.buf = bufAddr + (i : Int) * (r.2 : Int) := by
  intro r
  unfold varsFlatten
  simp only [hd, if_false]
  refine ⟨List.ext_getElem? fun i => by simp [List.getElem?_mapIdx]; rfl, fun i g hg => ?_⟩
  simp only [List.getElem?_mapIdx, Option.map_eq_some_iff] at hg
  obtain ⟨o, -, rfl⟩ := hg
  exact ⟨rfl, rfl⟩

/-- non-vacuity (kernel-evaluated): a 3x5 array of 4-byte elements at offset 100, rows 0 and 2,
    columns 1 and 3: four single-element segments, buffer addresses 0,4,8,12 -/
example : varsFlatten 4 100 [3, 5] 0 [0, 1] [2, 2] [2, 2] = [⟨104, 4, 0⟩, ⟨112, 4, 4⟩, ⟨144, 4, 8⟩, ⟨152, 4, 12⟩] := by decide

/-- `bufBlocks_cover`: the memory-side coalescing of mgetput (runs of requests whose I/O buffers are
    adjacent become one block of the hindexed buffer type) covers exactly the bytes of the requests'
    buffers, in request order — for every list of requests with non-negative sizes, whether or not
    the NC_MAX_INT guard stops a fusion. -/
theorem bufBlocks_cover (reqs : List (Int × Int)) (hp : ∀ r ∈ reqs, 0 ≤ r.2) :
    (bufBlocks reqs).flatMap (fun p => Merge.span ((reqs.head?.map (fun r => r.1)).getD 0 + p.1) p.2)
      = reqs.flatMap (fun r => Merge.span r.1 r.2) :=
  bufBlocks_bytes reqs hp

example : bufBlocks [(1000, 8), (1008, 4), (2000, 4), (1012, 4), (1016, 4)] = [(0, 12), (1000, 4), (12, 8)] := by decide

def obligations : List String := [
  "merge_spec", "sort_spec", "coalesce_preserves_map", "merge_disjoint_identity", "aggregate_disjoint",
  "read_fills_all_counterexample", "read_fills_all_partial",
  "queue_inv_meaning", "inv_init", "queue_inv_partial", "queue_inv_counterexample", "queue_inv_fixed",
  "refused_wait_harmless_counterexample", "refused_wait_harmless_fixed",
  "wait_exact_partial", "wait_exact_counterexample", "status_by_id_counterexample", "wait_exact_all_fixed", "wait_all_spec",
  "cancel_spec", "post_spec",
  "numrecs_counterexample", "numrecs_partial", "numrecs_fixed", "record_split", "record_split_tiles",
  "varsFlatten_offsets", "varsFlatten_segs", "bufBlocks_cover"
]
end PnVerif.Props.C02
