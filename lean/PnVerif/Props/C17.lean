import PnVerif.Lemmas.IdTable
/-
  C17 — file handles have a clean lifecycle (the id table of src/dispatchers/file.c).

  All theorems are about `Tab α` for an ARBITRARY per-file object type `α`, an arbitrary
  NC_MAX_NFILES (= `t.cap`), and — where a history is involved — arbitrary programs
  `List (Op α)` (create/open with any driver outcome, close/abort, any other call on any id,
  valid or not), by induction.  `Consistent` (pnc_numfiles = number of non-NULL slots) holds in every
  reachable state (`reachable_inv`).

  `b : Bool` is the PNC_check_id variant: `false` = the code as it is in the source (no NULL test),
  `true` = with the one-line repair.  The property's central claim — a call with an id that is not
  open returns NC_EBADID instead of crashing — is FALSE of `b = false` (known defect F1):
  `check_id_counterexample`, `no_crash_counterexample`; it holds of `b = true`:
  `check_id_spec_repaired`, `no_crash_repaired`.  The correspondence run determines which variant the
  library follows.
-/
namespace PnVerif.Props.C17
open PnVerif.IdTable

theorem reachable_inv {α : Type} (b : Bool) (N : Nat) (ops : List (Op α)) : Consistent (run b (init α N) ops).1 :=
  run_inv b (init_inv N) ops

/-- PNC_check_id answers NC_EBADID exactly for the ids that are not open -/
def check_id_Statement (b : Bool) : Prop :=
  ∀ (α : Type) (t : Tab α) (ncid : Int), Consistent t →
    (checkId b t ncid = Chk.badid ↔ (ncid < 0 ∨ ncid ≥ t.cap ∨ t.slots[ncid.toNat]? = some none))

/-- F1: two slots, slot 0 closed (NULL), slot 1 open, ncid = 0: PNC_check_id returns NC_NOERR with a
    NULL object (the caller then dereferences it) -/
theorem check_id_counterexample : ¬ check_id_Statement false := by
  intro h
  have := (h Unit ⟨[none, some ()], 1⟩ 0 (by simp [Consistent, countSome])).mpr (by simp)
  simp [checkId, Tab.cap] at this

/-- exact characterisation of the defect: NC_NOERR + NULL iff some file is open, the id is in range
    and its slot is empty -/
theorem check_id_null_iff {α : Type} (t : Tab α) (ncid : Int) :
    checkId false t ncid = Chk.null ↔
      (t.num ≠ 0 ∧ 0 ≤ ncid ∧ ncid < t.cap ∧ t.slots[ncid.toNat]? = some none) := by
  rcases checkId_cases false t ncid with ⟨hc, he⟩ | ⟨h0, h1, h2, x, hx, he⟩
  · rw [he]
    exact ⟨nofun, fun h => by omega⟩
  · rw [he, hx]
    cases x with
    | none => exact ⟨fun _ => ⟨h0, h1, h2, rfl⟩, fun _ => rfl⟩
    | some p => exact ⟨nofun, fun h => nomatch h.2.2.2⟩

theorem not_open_of_first_test {α : Type} {t : Tab α} {ncid : Int} (inv : Consistent t)
    (hc : t.num = 0 ∨ ncid < 0 ∨ ncid ≥ t.cap) :
    ncid < 0 ∨ ncid ≥ t.cap ∨ t.slots[ncid.toNat]? = some none := by
  by_cases hr : ncid < 0 ∨ ncid ≥ t.cap
  · omega
  · unfold Consistent at inv
    exact Or.inr (Or.inr (countSome_zero (by omega) _ (by unfold Tab.cap at hr; omega)))

theorem open_of_occupied {α : Type} {t : Tab α} {ncid : Int} {p : α} (h1 : 0 ≤ ncid) (h2 : ncid < t.cap)
    (hp : t.slots[ncid.toNat]? = some (some p)) :
    ¬ (ncid < 0 ∨ ncid ≥ t.cap ∨ t.slots[ncid.toNat]? = some none) := by
  rintro (h | h | h)
  · omega
  · omega
  · rw [hp] at h; cases h

theorem occupied_of_hyp {α : Type} {t : Tab α} {ncid : Int} (h0 : t.num ≠ 0) (h1 : 0 ≤ ncid) (h2 : ncid < t.cap)
    (hyp : t.num = 0 ∨ ncid < 0 ∨ ncid ≥ t.cap ∨ ∃ p, t.slots[ncid.toNat]? = some (some p)) :
    ∃ p, t.slots[ncid.toNat]? = some (some p) :=
  ((hyp.resolve_left h0).resolve_left (by omega)).resolve_left (by omega)

/-- the statement with exactly the extra hypothesis the unrepaired code needs: no file open, or id
    out of range, or the slot occupied -/
theorem check_id_partial {α : Type} (t : Tab α) (ncid : Int) (inv : Consistent t)
    (hyp : t.num = 0 ∨ ncid < 0 ∨ ncid ≥ t.cap ∨ ∃ p, t.slots[ncid.toNat]? = some (some p)) :
    (checkId false t ncid = Chk.badid ↔ (ncid < 0 ∨ ncid ≥ t.cap ∨ t.slots[ncid.toNat]? = some none)) := by
  rcases checkId_cases false t ncid with ⟨hc, he⟩ | ⟨h0, h1, h2, x, hx, he⟩
  · exact iff_of_true he (not_open_of_first_test inv hc)
  · obtain ⟨p, hp⟩ := occupied_of_hyp h0 h1 h2 hyp
    cases hx.symm.trans hp
    exact iff_of_false (he ▸ nofun) (open_of_occupied h1 h2 hp)

/-- with the repair the full statement holds -/
theorem check_id_spec_repaired : check_id_Statement true := by
  intro α t ncid inv
  rcases checkId_cases true t ncid with ⟨hc, he⟩ | ⟨h0, h1, h2, x, hx, he⟩
  · exact iff_of_true he (not_open_of_first_test inv hc)
  · rw [he]
    cases x with
    | none => exact iff_of_true rfl (Or.inr (Or.inr hx))
    | some p => exact iff_of_false nofun (open_of_occupied h1 h2 hx)

/-- whatever program is run from the initial state, no API call dereferences a NULL object -/
def no_crash_Statement (b : Bool) : Prop :=
  ∀ (α : Type) (N : Nat) (ops : List (Op α)), Outcome.crash ∉ (run b (init α N) ops).2

/-- F1 as a program: create a, create b, close a, inq(a) -/
theorem no_crash_counterexample : ¬ no_crash_Statement false := by
  intro h
  have := h Unit 2 [.create () 0, .create () 0, .close 0 (fun _ => 0), .call 0 (fun p => (p, 0))]
  exact this (by decide)

theorem no_crash_repaired : no_crash_Statement true :=
  fun _ N ops => run_true_no_crash (init _ N) ops

/-- and the unrepaired code is crash-free as long as every id used is an open one (or out of range,
    or no file is open): the extra hypothesis is about the PROGRAM, checked call by call -/
theorem no_crash_partial {α : Type} (t : Tab α) (op : Op α)
    (hyp : ∀ ncid, (∃ f, op = .close ncid f) ∨ (∃ f, op = .call ncid f) →
             t.num = 0 ∨ ncid < 0 ∨ ncid ≥ t.cap ∨ ∃ p, t.slots[ncid.toNat]? = some (some p)) :
    (step false t op).2.1 ≠ Outcome.crash := by
  intro h
  obtain ⟨ncid, hop, hn⟩ := step_crash h
  obtain ⟨h0, h1, h2, hs⟩ := (check_id_null_iff t ncid).mp hn
  obtain ⟨p, hp⟩ := occupied_of_hyp h0 h1 h2 (hyp ncid hop)
  rw [hp] at hs
  cases hs

/-- new_id_PNCList on a consistent table: NC_ENFILE iff every slot is taken; otherwise the id handed
    out is the LOWEST free slot, that slot now holds the object, the counter went up by one -/
theorem id_reuse_lowest_free {α : Type} (t : Tab α) (inv : Consistent t) (p : α) :
    (free t = 0 ∧ newId t p = (t, NC_ENFILE, -1)) ∨
    (∃ i : Nat, newId t p = (⟨t.slots.set i (some p), t.num + 1⟩, NC_NOERR, (i : Int)) ∧
       t.slots[i]? = some none ∧ (∀ j, j < i → ∃ q, t.slots[j]? = some (some q)) ∧ 0 < free t) :=
  newId_spec inv p

theorem free_after_create {α : Type} (b : Bool) {t : Tab α} (inv : Consistent t) (p : α) (hf : 0 < free t) :
    ∃ t' id, step b t (.create p 0) = (t', .ret NC_NOERR, id) ∧ Consistent t' ∧ free t' + 1 = free t := by
  rcases newId_spec inv p with ⟨h0, _⟩ | ⟨i, h, hi, _, _⟩
  · omega
  · have inv' := newId_inv inv p
    rw [h] at inv'
    refine ⟨_, i, by simp only [step, h, NC_NOERR, ne_eq, not_true_eq_false, if_false], inv', ?_⟩
    have hc := countSome_set hi (some p)
    have hle := countSome_le (t.slots.set i (some p))
    simp only [free, Tab.cap, countSome, List.length_set] at hc hle hf ⊢
    omega

/-- as many creates/opens in a row as there are free slots all succeed -/
theorem creates_succeed {α : Type} (b : Bool) (ps : List α) (t : Tab α) (inv : Consistent t) (hf : ps.length ≤ free t) :
    (run b t (ps.map (fun p => Op.create p 0))).2 = List.replicate ps.length (.ret NC_NOERR) ∧
    free (run b t (ps.map (fun p => Op.create p 0))).1 + ps.length = free t := by
  induction ps generalizing t with
  | nil => exact ⟨rfl, rfl⟩
  | cons p rest ih =>
    rw [List.length_cons] at hf
    obtain ⟨t', id, hst, inv', h2⟩ := free_after_create b inv p (by omega)
    obtain ⟨i1, i2⟩ := ih t' inv' (by omega)
    simp only [List.map_cons, run, hst, List.length_cons, i1, List.replicate_succ, true_and]
    omega

/-- max_files: from the initial state exactly NC_MAX_NFILES files can be open at once — N creates
    succeed, the next one fails with NC_ENFILE and changes nothing -/
theorem max_files {α : Type} (b : Bool) (N : Nat) (ps : List α) (hl : ps.length = N) (p : α) :
    (run b (init α N) (ps.map (fun p => Op.create p 0))).2 = List.replicate N (.ret NC_NOERR) ∧
    step b (run b (init α N) (ps.map (fun p => Op.create p 0))).1 (.create p 0) =
      ((run b (init α N) (ps.map (fun p => Op.create p 0))).1, .ret NC_ENFILE, -1) := by
  obtain ⟨h1, h2⟩ := creates_succeed b ps (init α N) (init_inv N) (by rw [init_free]; omega)
  refine ⟨by rw [h1, hl], ?_⟩
  have inv := reachable_inv b N (ps.map (fun p => Op.create p 0))
  rw [init_free] at h2
  rcases newId_spec inv p with ⟨_, h⟩ | ⟨i, _, _, _, hpos⟩
  · simp [step, h, NC_ENFILE, NC_NOERR]
  · omega

/-- close / abort / any call on `ncid` leaves every other slot exactly as it was -/
theorem files_independent {α : Type} (b : Bool) (t : Tab α) (ncid : Int) (j : Nat) (hj : j ≠ ncid.toNat) :
    (∀ f, (step b t (.close ncid f)).1.slots[j]? = t.slots[j]?) ∧
    (∀ f, (step b t (.call ncid f)).1.slots[j]? = t.slots[j]?) := by
  refine ⟨fun f => ?_, fun f => ?_⟩ <;> simp only [step] <;> cases checkId b t ncid with
    | ok p => exact List.getElem?_set_ne (Ne.symm hj)
    | _ => rfl

/-- create / open (successful or failing) leaves every open file's slot exactly as it was -/
theorem files_independent_create {α : Type} (b : Bool) (t : Tab α) (inv : Consistent t) (p : α) (derr : Int) (j : Nat) (q : α)
    (hq : t.slots[j]? = some (some q)) : (step b t (.create p derr)).1.slots[j]? = some (some q) := by
  rcases newId_spec inv p with ⟨_, h⟩ | ⟨i, h, hi, _, _⟩
  · rw [step, h]; exact hq
  · -- the id handed out is a free slot, so it is not `j`
    have hij : i ≠ j := by intro e; subst e; rw [hi] at hq; cases hq
    simp only [step, h, NC_NOERR, ne_eq, not_true_eq_false, if_false]
    split
    · simp only [del, Int.toNat_natCast, List.getElem?_set_ne hij, hq]
    · simp only [List.getElem?_set_ne hij, hq]

/-- close (or abort) of an open id: the object's own error code is returned, the slot is empty
    afterwards, the counter went down by one, a repaired PNC_check_id rejects the id from now on, and
    the next create reuses an id not larger than it -/
theorem close_frees_slot {α : Type} (b : Bool) (t : Tab α) (inv : Consistent t) (ncid : Int) (p : α)
    (hc : checkId b t ncid = Chk.ok p) (f : α → Int) :
    (step b t (.close ncid f)).2.1 = .ret (f p) ∧
    (step b t (.close ncid f)).1.slots[ncid.toNat]? = some none ∧
    (step b t (.close ncid f)).1.num = t.num - 1 ∧
    checkId true (step b t (.close ncid f)).1 ncid = Chk.badid ∧
    (∀ q, ∃ i : Nat, (newId (step b t (.close ncid f)).1 q).2 = (NC_NOERR, (i : Int)) ∧ i ≤ ncid.toNat) := by
  obtain ⟨_, hlt, hslot⟩ := checkId_ok hc
  have inv' : Consistent (del t ncid.toNat) := del_inv inv hslot
  have hnone : (del t ncid.toNat).slots[ncid.toNat]? = some none := List.getElem?_set_self hlt
  have hstep : step b t (.close ncid f) = (del t ncid.toNat, .ret (f p), -1) := by simp only [step, hc]
  rw [hstep]
  refine ⟨rfl, hnone, rfl, (check_id_spec_repaired α _ ncid inv').mpr (Or.inr (Or.inr hnone)), fun q => ?_⟩
  rcases newId_spec inv' q with ⟨hfull, _⟩ | ⟨i, h, hi, hlow, _⟩
  · -- the slot just emptied is free
    have h1 := countSome_set hslot none
    have h2 := countSome_le t.slots
    simp only [free, Tab.cap, del, List.length_set, countSome] at hfull h1
    omega
  · refine ⟨i, by rw [h], Nat.not_lt.mp fun hlt' => ?_⟩
    -- every slot below the id handed out is occupied, and `ncid`'s is not
    obtain ⟨q', hq'⟩ := hlow _ hlt'
    rw [hnone] at hq'
    cases hq'

/-- `if (status == NC_NOERR) status = err;`: the first error wins -/
def firstErr (s e : Int) : Int := if s = NC_NOERR then e else s

/-- the part of ncmpio_close for `n` pending requests whose cancel returned `c` -/
def cancelPending (n : Nat) (s c : Int) : Int :=
  if n > 0 then (if firstErr s c = NC_NOERR then NC_EPENDING else firstErr s c) else s

theorem closeStatus_eq (enddefErr indepErr : Int) (nget nput : Nat) (cg cp cf : Int) :
    closeStatus enddefErr indepErr nget nput cg cp cf =
      (firstErr (cancelPending nput (cancelPending nget (firstErr enddefErr indepErr) cg) cp) cf, 0, 0) := rfl

theorem firstErr_eq_noerr {s e : Int} : firstErr s e = NC_NOERR ↔ s = NC_NOERR ∧ e = NC_NOERR := by
  unfold firstErr
  split <;> simp [*]

theorem cancelPending_eq_noerr {n : Nat} {s c : Int} :
    cancelPending n s c = NC_NOERR ↔ n = 0 ∧ s = NC_NOERR := by
  unfold cancelPending
  split
  · split
    · exact iff_of_false (by decide) (by omega)
    · exact iff_of_false ‹_› (by omega)
  · exact ⟨fun h => ⟨by omega, h⟩, fun h => h.2⟩

theorem cancelPending_noerr (n : Nat) :
    cancelPending n NC_NOERR NC_NOERR = if n > 0 then NC_EPENDING else NC_NOERR := rfl

theorem cancelPending_pending (n : Nat) : cancelPending n NC_EPENDING NC_NOERR = NC_EPENDING := by
  unfold cancelPending
  split <;> rfl

/-- closing with pending nonblocking requests: every request is gone afterwards, and unless an
    earlier step already failed the caller is told NC_EPENDING; NC_NOERR is returned only if nothing
    was pending and nothing failed -/
theorem close_cancels_and_reports (enddefErr indepErr : Int) (nget nput : Nat) (cg cp cf : Int) :
    (closeStatus enddefErr indepErr nget nput cg cp cf).2 = (0, 0) ∧
    ((closeStatus enddefErr indepErr nget nput cg cp cf).1 = NC_NOERR →
        nget = 0 ∧ nput = 0 ∧ enddefErr = NC_NOERR ∧ indepErr = NC_NOERR ∧ cf = NC_NOERR) ∧
    (0 < nget + nput → enddefErr = NC_NOERR → indepErr = NC_NOERR → cg = NC_NOERR → cp = NC_NOERR →
        (closeStatus enddefErr indepErr nget nput cg cp cf).1 = NC_EPENDING) := by
  rw [closeStatus_eq]
  refine ⟨rfl, ?_, ?_⟩
  · simp only [firstErr_eq_noerr, cancelPending_eq_noerr]
    exact fun ⟨⟨hp, hg, he, hi⟩, hf⟩ => ⟨hg, hp, he, hi, hf⟩
  · rintro hpos rfl rfl rfl rfl
    show firstErr (cancelPending nput (cancelPending nget NC_NOERR NC_NOERR) NC_NOERR) cf = NC_EPENDING
    rw [cancelPending_noerr]
    split
    · rw [cancelPending_pending]; rfl
    · rw [cancelPending_noerr, if_pos (by omega)]; rfl

example : Consistent (run false (init Nat 3) [.create 10 0, .create 11 0, .close 0 (fun _ => 0)]).1 :=
  reachable_inv false 3 _
/-- id 0 is reissued after its close while id 1 stays open -/
example : (run false (init Nat 3) [.create 10 0, .create 11 0, .close 0 (fun _ => 0), .create 12 0]).1.slots
    = [some 12, some 11, none] := by decide
/-- a failing create (driver error) hands its id back -/
example : (step false (init Nat 2) (.create 10 (-35))).1.slots = [none, none] ∧
    (step false (init Nat 2) (.create 10 (-35))).2 = (.ret (-35), -1) := by decide
example : (closeStatus 0 0 0 2 0 0 0).1 = NC_EPENDING := by decide
/-- a table that meets the hypotheses of `check_id_partial` (consistent, probed id open) and one
    that meets those of `check_id_null_iff`'s right-hand side (the F1 situation) -/
example : Consistent (⟨[some 1, none], 1⟩ : Tab Nat) ∧ (∃ p, (⟨[some 1, none], 1⟩ : Tab Nat).slots[(0 : Int).toNat]? = some (some p)) :=
  ⟨by simp [Consistent, countSome], ⟨1, rfl⟩⟩
example : checkId false (⟨[none, some 1], 1⟩ : Tab Nat) 0 = Chk.null := by
  rw [check_id_null_iff]; decide

def obligations : List String := [
  "reachable_inv", "check_id_counterexample", "check_id_null_iff", "check_id_partial", "check_id_spec_repaired",
  "no_crash_counterexample", "no_crash_repaired", "no_crash_partial", "id_reuse_lowest_free", "creates_succeed",
  "max_files", "files_independent", "files_independent_create", "close_frees_slot", "close_cancels_and_reports"
]
end PnVerif.Props.C17
