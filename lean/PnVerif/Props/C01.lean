import PnVerif.Lemmas.Access
import PnVerif.Lemmas.AccessInj
import PnVerif.Lemmas.Contig
import PnVerif.Base.File
/-
  C01 — blocking put/get round-trip for every access pattern: the offset machinery.

  What is proved here (for every number of dimensions, every shape, every start/count/stride):
  the byte offsets the C code computes for a request — through `stride_flatten`, through the
  hvector-of-records construction of `filetype_create_vara`, through `ncmpio_first_offset` — are
  exactly the offsets the format specification assigns to the addressed elements, in request order
  (`elemOff`), that distinct in-bounds elements never share bytes and stay inside the variable's own
  area, and that therefore writing a request and reading any request back through a byte map returns
  what was written while every other byte keeps its value.
-/
namespace PnVerif.Props.C01
open PnVerif.Access

theorem unitsFixed_length (xsz : Nat) (shape : List Nat) : (unitsFixed xsz shape).length = shape.length := by
  induction shape with
  | nil => rfl
  | cons n ns ih => simp [unitsFixed, ih]

theorem units_length (v : VarLay) : (units v).length = v.shape.length := by
  unfold units
  cases v.isRec with
  | false => simp [unitsFixed_length]
  | true =>
    cases h : v.shape with
    | nil => simp
    | cons n ns => simp [unitsFixed_length]

/-- **stride_flatten is correct**: for every variable (any rank ≥ 1, fixed or record), every
    (start,count,stride), the element offsets described by the block displacements and the common
    block length the C function returns are exactly the specified offsets of the addressed elements,
    in row-major request order.  The only side condition is the one the caller guarantees
    (stride_flatten is used for "true vars" requests only): a 1-D record variable is not asked for a
    stride-1 run of more than one element unless records are packed (recsize = xsz). -/
theorem strideFlatten_offsets (v : VarLay) (s c k : List Nat)
    (h1 : s.length = c.length) (h2 : s.length = k.length) (h3 : s.length = v.shape.length)
    (hne : s ≠ []) (hel : 0 < v.xsz)
    (h1d : v.isRec = true → v.shape.length = 1 → k.getLastD 1 = 1 → v.recsize = v.xsz ∨ c.getLastD 0 ≤ 1) :
    (expandBlocks v.xsz (strideFlatten v s c k).1 (strideFlatten v s c k).2).map (fun o => v.begin + o)
      = (enumIdx s c k).map (elemOff v) := by
  have hrec : v.isRec = true → v.shape ≠ [] := fun _ hs => by
    rw [hs] at h3; exact hne (List.length_eq_zero_iff.mp h3)
  rw [strideFlatten_dot v s c k h1 h2 h3 hne hel h1d, List.map_map]
  apply List.map_congr_left
  intro idx _
  exact (elemOff_eq_dot v idx hrec).symm

/-- non-vacuity: a 3-D record variable, strided in two dimensions (evaluated by the kernel) -/
example :
    let v : VarLay := { begin := 100, xsz := 4, shape := [0, 3, 5], isRec := true, recsize := 100 }
    (expandBlocks 4 (strideFlatten v [1,0,1] [2,2,2] [2,2,2]).1 (strideFlatten v [1,0,1] [2,2,2] [2,2,2]).2).map (fun o => 100 + o)
      = [204, 212, 244, 252, 404, 412, 444, 452] := by decide

/-- the repaired defect F19 as a regression theorem: 1-D record variable, stride 2, two record
    variables in the file (recsize 12 ≠ xsz 8): elements one record-stride apart -/
example :
    let v : VarLay := { begin := 4, xsz := 8, shape := [0], isRec := true, recsize := 12 }
    (strideFlatten v [0] [2] [2]).1 = [0, 24] := by decide

/-- **ncmpio_first_offset is correct**: the transcription (index loop over `dsizes[]`, separate treatment
    of the first / last / record dimension) computes exactly the specified offset of element `start`,
    for every rank and shape, fixed and record variables. -/
theorem firstOffset_eq (v : VarLay) (start : List Nat) (h : start.length = v.shape.length)
    (hrec : v.isRec = true → v.shape ≠ []) : firstOffset v start = elemOff v start := by
  unfold firstOffset elemOff
  cases hsh : v.shape with
  | nil =>
    cases hr : v.isRec with
    | false => simp [rowMajor]
    | true => exact absurd hsh (hrec hr)
  | cons a as =>
    rw [hsh] at h
    obtain ⟨s, ss, rfl⟩ := List.exists_cons_of_length_eq_add_one h
    simp only [List.length_cons, Nat.add_right_cancel_iff] at h
    cases as with
    | nil => cases v.isRec <;> simp [sumRange, rowMajor, prod, dsizes] <;> omega
    | cons b bs =>
      -- the loop over the middle dimensions plus the last index is the row-major index of `ss`
      have hl : sumRange bs.length (fun j => (s :: ss).getD (j + 1) 0 * dsizes (a :: b :: bs) (j + 2))
          + (s :: ss).getD (bs.length + 1) 0 = rowMajor (b :: bs) ss :=
        sumRange_rowMajor (b :: bs) ss h.symm (Nat.succ_pos _)
      have h1 : bs.length + 1 + 1 > 1 := by omega
      simp only [List.length_cons, Nat.reduceSubDiff, Nat.add_one_ne_zero, h1, if_true, if_false,
        List.headD_cons, List.drop_succ_cons, List.drop_zero, List.getD_cons_zero, rowMajor, ← hl, dsizes, Nat.add_mul]
      cases v.isRec <;> simp only [Bool.false_eq_true, if_true, if_false] <;> omega

example : firstOffset { begin := 64, xsz := 4, shape := [0, 3, 5], isRec := true, recsize := 100 } [2, 1, 3] = 296 := by decide

/-- **is_request_contiguous is sound** (fixed-size variables): when the C test answers "contiguous" for
    a request inside the shape, the addressed elements are exactly `Π count` consecutive elements
    starting at the offset of `start` — which is what lets filetype_create_vara replace the file type
    by the plain offset `ncmpio_first_offset` (see `firstOffset_eq`). -/
theorem isReqContig_sound (v : VarLay) (hfix : v.isRec = false) (nrv : Nat) (s c : List Nat)
    (hv : validReq v.shape s c) (hne : v.shape ≠ [])
    (hc : isReqContig false nrv v.shape c = true) :
    (enumIdx s c (ones v.shape.length)).map (elemOff v) = consec (elemOff v s) (prod c) v.xsz := by
  have hoff := elemOff_fixed hfix
  -- the C test on this request is the scan over (shape, count)
  have hscan : contigScan (v.shape.zip c).reverse = true := by
    have h0 : ¬ v.shape.length = 0 := fun h => hne (List.length_eq_zero_iff.mp h)
    simpa [isReqContig, h0, validReq_count_ne_zero _ _ _ hv] using hc
  rw [hoff, ← consec_shift, ← contigScan_sound v.xsz v.shape s c hv hscan, List.map_map]
  exact List.map_congr_left (fun idx _ => hoff idx)

example : isReqContig false 0 [4, 3, 5] [1, 2, 5] = true ∧ validReq [4, 3, 5] [2, 1, 0] [1, 2, 5] := by
  constructor
  · decide
  · simp [validReq]

theorem elem_inside_fixed (v : VarLay) (hf : v.isRec = false) (idx : List Nat) (hb : inBounds v.shape idx) :
    v.begin ≤ elemOff v idx ∧ elemOff v idx + v.xsz ≤ v.begin + prod v.shape * v.xsz := by
  have := elem_end_le v.shape idx v.xsz hb
  rw [elemOff_fixed hf]
  omega

theorem elems_disjoint_fixed (v : VarLay) (hf : v.isRec = false) (idx idx' : List Nat)
    (hb : inBounds v.shape idx) (hb' : inBounds v.shape idx') (hne : idx ≠ idx') :
    elemOff v idx + v.xsz ≤ elemOff v idx' ∨ elemOff v idx' + v.xsz ≤ elemOff v idx := by
  have := rowMajor_disjoint v.shape idx idx' v.xsz hb hb' hne
  rw [elemOff_fixed hf, elemOff_fixed hf]
  omega

/-- record variables: element (r :: is) lies inside the variable's slot of record r, provided one
    record of the variable fits in the record size (which `begins_wf`, C03, guarantees) -/
theorem elem_inside_rec (v : VarLay) (hr : v.isRec = true) (r : Nat) (is : List Nat)
    (hb : inBounds (v.shape.drop 1) is) (hfit : prod (v.shape.drop 1) * v.xsz ≤ v.recsize) :
    v.begin + r * v.recsize ≤ elemOff v (r :: is)
      ∧ elemOff v (r :: is) + v.xsz ≤ v.begin + r * v.recsize + prod (v.shape.drop 1) * v.xsz
      ∧ elemOff v (r :: is) + v.xsz ≤ v.begin + (r + 1) * v.recsize := by
  have := elem_end_le _ is v.xsz hb
  rw [elemOff_rec hr, Nat.add_mul, Nat.one_mul]
  omega

theorem elems_disjoint_rec (v : VarLay) (hr : v.isRec = true) (r r' : Nat) (is is' : List Nat)
    (hb : inBounds (v.shape.drop 1) is) (hb' : inBounds (v.shape.drop 1) is')
    (hfit : prod (v.shape.drop 1) * v.xsz ≤ v.recsize) (hne : r ≠ r' ∨ is ≠ is') :
    elemOff v (r :: is) + v.xsz ≤ elemOff v (r' :: is') ∨ elemOff v (r' :: is') + v.xsz ≤ elemOff v (r :: is) := by
  have hi := elem_inside_rec v hr r is hb hfit
  have hi' := elem_inside_rec v hr r' is' hb' hfit
  rcases Nat.lt_trichotomy r r' with hlt | heq | hgt
  · have := mul_add_le_of_lt hlt v.recsize
    omega
  · subst heq
    have := rowMajor_disjoint _ is is' v.xsz hb hb' (hne.resolve_left (fun h => h rfl))
    rw [elemOff_rec hr, elemOff_rec hr]
    omega
  · have := mul_add_le_of_lt hgt v.recsize
    omega

/-- **put then get**: writing the encoded values of any batch of elements whose byte ranges are
    pairwise disjoint (which `elems_disjoint_*` gives for distinct in-bounds elements of one variable,
    and `begins_wf` for elements of different variables) and reading any of them back returns the
    bytes written; every byte outside the written ranges keeps its previous value.  Together with
    `strideFlatten_offsets` (the offsets used are the specified ones) and C09 (decode ∘ encode = id
    on representable values) this is the blocking round trip for one process. -/
theorem put_get_roundtrip (f : File) (reqs : List (Nat × List UInt8)) (hd : File.pairwiseDisjoint reqs) :
    (∀ r ∈ reqs, File.readAt (File.putElems f reqs) r.1 r.2.length = r.2)
    ∧ (∀ i, (∀ r ∈ reqs, i < r.1 ∨ r.1 + r.2.length ≤ i) → File.putElems f reqs i = f i) :=
  ⟨File.get_put f reqs hd, fun i h => File.putElems_frame f reqs i h⟩

/-- **any decomposition, any order**: two writes to disjoint ranges commute, so a region split across
    processes in any way yields one and the same file -/
theorem disjoint_puts_commute (f : File) (o1 o2 : Nat) (b1 b2 : List UInt8)
    (h : o1 + b1.length ≤ o2 ∨ o2 + b2.length ≤ o1) :
    File.writeAt (File.writeAt f o1 b1) o2 b2 = File.writeAt (File.writeAt f o2 b2) o1 b1 :=
  File.writes_commute f o1 o2 b1 b2 h

example : inBounds [3, 5] [2, 4] ∧ inBounds [3, 5] [0, 0] := by decide

def obligations : List String := [
  "strideFlatten_offsets", "firstOffset_eq", "isReqContig_sound", "elem_inside_fixed", "elems_disjoint_fixed", "elem_inside_rec", "elems_disjoint_rec",
  "put_get_roundtrip", "disjoint_puts_commute"
]
end PnVerif.Props.C01
