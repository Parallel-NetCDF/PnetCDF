import PnVerif.Model.Hints
import PnVerif.Base.File
/-
  C10 — hints, process count and execution modes never change results (the part that is logic).

  1. File content does not depend on how a set of disjoint writes is divided among processes nor on
     the order in which they land: `putElems_perm`, `putElems_append` (any permutation / any split of
     a pairwise-disjoint batch gives the same byte map).  With C01's `strideFlatten_offsets` and
     `elems_disjoint_*` this is "any number of processes and how they divide the work".
  2. The alignment settings the library reports are the ones in force and obey the documented
     precedence: theorems about `resolveAlign` (literal transcription of ncmpio__enddef).
  Everything else of C10 (swap in place, packing buffer, hash sizes, aggregation, safe mode) is
  decided differentially between configurations by checks/c10.py and labelled so in the evidence.
-/
namespace PnVerif.Props.C10
open PnVerif PnVerif.File PnVerif.Hints

/-- byte ranges of two writes do not overlap -/
def disj (a b : Nat × List UInt8) : Prop := a.1 + a.2.length ≤ b.1 ∨ b.1 + b.2.length ≤ a.1

theorem disj_symm : ∀ {a b}, disj a b → disj b a := by
  intro a b h; unfold disj at *; omega

theorem putElems_cons (f : File) (r : Nat × List UInt8) (l : List (Nat × List UInt8)) :
    putElems f (r :: l) = putElems (writeAt f r.1 r.2) l := rfl

theorem putElems_append (f : File) (a b : List (Nat × List UInt8)) :
    putElems f (a ++ b) = putElems (putElems f a) b := by
  unfold putElems; rw [List.foldl_append]

/-- **decomposition / schedule independence**: a pairwise-disjoint batch of writes produces the
    same file in every order (hence for every assignment of the pieces to processes and every
    interleaving of the processes). -/
theorem putElems_perm (f : File) (l1 l2 : List (Nat × List UInt8)) (hp : l1.Perm l2)
    (hd : l1.Pairwise disj) : putElems f l1 = putElems f l2 := by
  induction hp generalizing f with
  | nil => rfl
  | cons x _ ih =>
    rw [putElems_cons, putElems_cons]
    exact ih _ (List.Pairwise.of_cons hd)
  | swap x y l =>
    rw [putElems_cons, putElems_cons, putElems_cons, putElems_cons]
    have hxy : disj y x := (List.pairwise_cons.mp hd).1 x (List.mem_cons_self)
    rw [writes_commute f y.1 x.1 y.2 x.2 hxy]
  | trans p1 _ ih1 ih2 =>
    rw [ih1 f hd]
    exact ih2 f ((List.Perm.pairwise_iff (fun h => disj_symm h) p1).mp hd)

/-- splitting one batch into the pieces written by different processes changes nothing -/
theorem split_any_way (f : File) (whole : List (Nat × List UInt8)) (pieces : List (List (Nat × List UInt8)))
    (hp : whole.Perm pieces.flatten) (hd : whole.Pairwise disj) :
    putElems f whole = pieces.foldl putElems f := by
  rw [putElems_perm f whole pieces.flatten hp hd]
  clear hp hd
  induction pieces generalizing f with
  | nil => rfl
  | cons p ps ih =>
    rw [List.flatten_cons, putElems_append, List.foldl_cons]
    exact ih _

example : putElems empty [(4, [1, 2]), (0, [9])] = putElems empty [(0, [9]), (4, [1, 2])] :=
  putElems_perm _ _ _ (List.Perm.swap _ _ _) (by simp [disj])

theorem rndup4_mult (x : Nat) : rndup4 x % 4 = 0 := by unfold rndup4; omega
theorem rndup4_ge (x : Nat) : x ≤ rndup4 x := by unfold rndup4; omega
theorem rndup4_lt (x : Nat) : rndup4 x < x + 4 := by unfold rndup4; omega
theorem rndup4_pos (x : Nat) (h : 0 < x) : 0 < rndup4 x := by unfold rndup4; omega

/-- every alignment in force is a positive multiple of 4 (all CDF formats need 4-byte alignment) -/
theorem fin4_spec (x : Nat) : fin4 x % 4 = 0 ∧ 0 < fin4 x := by
  unfold fin4
  split
  · constructor <;> omega
  · exact ⟨rndup4_mult _, rndup4_pos _ (by omega)⟩

theorem resolve_mult4 (i : AlignIn) :
    let o := resolveAlign i
    (o.h % 4 = 0 ∧ 0 < o.h) ∧ (o.v % 4 = 0 ∧ 0 < o.v) ∧ (o.r % 4 = 0 ∧ 0 < o.r) := by
  simp only [resolveAlign]
  exact ⟨fin4_spec _, fin4_spec _, fin4_spec _⟩

/-- documented precedence 1/2 over 3: a hint (environment or info object) beats the ncmpi__enddef
    argument, whatever the argument is -/
theorem hint_beats_argument (i : AlignIn) (a a' b b' : Nat) :
    (0 < i.envV → (resolveAlign { i with argV := a, argR := b }).v = (resolveAlign { i with argV := a', argR := b' }).v)
    ∧ (0 < i.envR → (resolveAlign { i with argV := a, argR := b }).r = (resolveAlign { i with argV := a', argR := b' }).r)
    ∧ (0 < i.envH → (resolveAlign { i with argV := a, argR := b }).h = (resolveAlign { i with argV := a', argR := b' }).h) := by
  refine ⟨?_, ?_, ?_⟩ <;> intro h <;> simp [resolveAlign, Nat.ne_of_gt h]

/-- precedence 3 over 4: without a hint the argument is used (rounded up to 4) -/
theorem argument_used (i : AlignIn) (hv : i.envV = 0) (ha : 0 < i.argV) :
    (resolveAlign i).v = rndup4 i.argV := by
  simp [resolveAlign, fin4, hv, Nat.ne_of_gt ha, ha]

/-- precedence 4: no hint, no argument → 4 for v_align and r_align; 512 for the header of a NEW file,
    and no forced header alignment when an existing file is redefined (it could grow the file) -/
theorem defaults (numFix : Nat) :
    resolveAlign { envH := 0, envV := 0, envR := 0, argV := 0, argR := 0, numFixVars := numFix, isRedef := false }
      = { h := 512, v := 4, r := 4 }
    ∧ resolveAlign { envH := 0, envV := 0, envR := 0, argV := 0, argR := 0, numFixVars := numFix, isRedef := true }
      = { h := 4, v := 4, r := 4 } := by
  constructor <;> simp [resolveAlign, fin4, FILE_ALIGNMENT_DEFAULT, rndup4]

/-- the value in force differs from what the user asked for by less than 4 (only the rounding) -/
theorem hint_honoured (i : AlignIn) (h : 0 < i.envV) :
    i.envV ≤ (resolveAlign i).v ∧ (resolveAlign i).v < i.envV + 4 := by
  simp only [resolveAlign, fin4, Nat.ne_of_gt h, ↓reduceIte]
  exact ⟨rndup4_ge _, rndup4_lt _⟩

example : resolveAlign { envH := 0, envV := 0, envR := 0, argV := 1000, argR := 0, numFixVars := 2, isRedef := false }
    = { h := 1000, v := 1000, r := 4 } := by decide
example : resolveAlign { envH := 0, envV := 0, envR := 6, argV := 0, argR := 100, numFixVars := 0, isRedef := false }
    = { h := 8, v := 4, r := 8 } := by decide

def obligations : List String := [
  "putElems_perm", "split_any_way", "putElems_append", "resolve_mult4", "hint_beats_argument", "argument_used",
  "defaults", "hint_honoured"
]
end PnVerif.Props.C10
