import PnVerif.Lemmas.ToolsSound
import PnVerif.Lemmas.ToolsRepaired
import PnVerif.Lemmas.ToolsDiff
import PnVerif.Lemmas.ToolsPartition
import PnVerif.Lemmas.ToolsChunk
import PnVerif.Lemmas.Accept
import PnVerif.Props.C04
/-
  C20 — offline utilities agree with the library and the format.
  Models: Model/Tools.lean (ncvalidator, cdfdiff, ncmpidiff); independent decoder: Spec/SpecDecode.lean.
-/
namespace PnVerif.Props.C20
open PnVerif.Spec PnVerif.Header PnVerif.Tools

/-- Full-strength statement: whatever the validator accepts, the independent decoder accepts. -/
def validate_sound_Statement (c : VCfg) : Prop :=
  ∀ b : Bytes, validate c b = true → specDecode b ≠ none

/-- "CDF\x01" + numrecs and nothing else: 8 bytes, the rest of the header is missing.  val_fetch
    zero-fills its window, so the validator reads three ABSENT lists and reports a valid file. -/
def truncatedFile : Bytes := [0x43, 0x44, 0x46, 1, 0, 0, 0, 0]

theorem validate_sound_counterexample : ¬ validate_sound_Statement VCfg.asIs := by
  intro hS
  have h1 : validate VCfg.asIs truncatedFile = true := by decide
  have h2 : specDecode truncatedFile = none := by decide
  exact hS _ h1 h2

theorem namesNoNul_of_encodable (d : Schema) (he : Encodable d) : NamesNoNul d :=
  ⟨fun x hx => (he.dims x hx).nul, fun a ha => (he.gatts a ha).nul,
   fun v hv => ⟨(he.vars v hv).nul, fun a ha => ((he.vars v hv).atts a ha).nul⟩⟩

/-- the strictness behind `validate_sound_partial`: an accepted file begins with exactly the bytes the library's
    writer produces for the header the validator read — magic, every tag and count, every padding byte (all null),
    every field. -/
theorem validate_canonical (c : VCfg) (b : Bytes) (h : Hdr) (info : Info) (hg : vGetNC c b = .ok (h, info, VFlags.ok))
    (h0 : NamesNoNul h) (hl : Hdr.len h ≤ b.length) : ∃ rest, b = encodeRaw h ++ rest := by
  obtain ⟨f, s', hm, hb, _⟩ := vGetNC_run hg
  obtain ⟨em, hlen⟩ := vMagic_inv hm
  obtain ⟨hfmt, eb⟩ := vBody_inv c f hb (by rw [List.length_drop]; omega) h0
  refine ⟨s', ?_⟩
  rw [em, eb]
  unfold encodeRaw
  simp only [hfmt, List.append_assoc]

/-- `validate_sound_partial`: with exactly the three extra hypotheses the findings C20-F3/F4/F5 call for — the
    file is at least as long as the header that was read (no zero extension), the fields of that header fit
    their widths and names hold no NUL (`Encodable`: no sign bit in a NON_NEG / OFFSET field), every empty list
    is written as ABSENT (flag `tag`) — whatever ncvalidator accepts (null padding: flag `pad`) is accepted by
    the independent BNF decoder, which returns the very header the validator read. -/
theorem validate_sound_partial (c : VCfg) (b : Bytes) (h : Hdr) (info : Info) (hg : vGetNC c b = .ok (h, info, VFlags.ok))
    (he : Encodable h) (hl : Hdr.len h ≤ b.length) : specDecode b = some h := by
  obtain ⟨rest, rfl⟩ := validate_canonical c b h info hg (namesNoNul_of_encodable h he) hl
  exact PnVerif.Props.C04.specDecode_encode h rest he

/-! ### the repaired validator (findings C20-F3, F4, F6 repaired: flags strictLen, strictSign, dimid64) -/

theorem validate_true (c : VCfg) (b : Bytes) (hv : validate c b = true) :
    ∃ h info fl, vGetNC c b = .ok (h, info, fl) ∧ fl.pad = true ∧ (c.strictLen = true → Hdr.len h ≤ b.length) := by
  unfold validate at hv
  split at hv
  · cases hv
  · rename_i h info fl hg
    split at hv
    · cases hv
    · rename_i hc
      exact ⟨h, info, fl, hg, hv, fun hs => Nat.le_of_not_lt fun hlt => hc ⟨hs, hlt⟩⟩

/-- `validate_sound_repaired`: with the three repairs in place the hypotheses "the file is long enough" and
    "no field has its sign bit set" of `validate_sound_partial` are not needed — they are what the repaired code tests.
    What it does need: names without NUL byte (the validator does not look inside names), numrecs is a NON_NEG (the
    specification also allows the STREAMING value, which the independent decoder does not accept), and every
    empty list written as ABSENT (ghost flag `tag`; see `repaired_array_tag` for what F5's repair guarantees). -/
theorem validate_sound_repaired (c : VCfg) (hl : c.strictLen = true) (hs : c.strictSign = true) (hd : c.dimid64 = true)
    (b : Bytes) (h : Hdr) (info : Info) (fl : VFlags) (hg : vGetNC c b = .ok (h, info, fl)) (hv : validate c b = true)
    (ht : fl.tag = true) (h0 : NamesNoNul h) (hnr : h.numrecs < nnLim h.fmt) : specDecode b = some h := by
  obtain ⟨_, _, _, hg', hp, hlen⟩ := validate_true c b hv
  cases hg.symm.trans hg'
  obtain rfl : fl = VFlags.ok := by cases fl; cases hp; cases ht; rfl
  -- the header is Encodable: from the reader's own tests
  obtain ⟨f, _, _, hb, _⟩ := vGetNC_run hg
  exact validate_sound_partial c b h info hg (encodable_of_vBody c hs hd f hb h0 hnr) (hlen hl)

/-- F5 repaired: every list an accepting run has read starts with ABSENT or with the list's own tag -/
theorem repaired_array_tag {α : Type} (c : VCfg) (ht : c.strictTag = true) (ver tag maxN : Nat) (errMax : VErr)
    (items : Nat → VP (List α × VFlags)) (s s' : Bytes) (xs : List α) (fl : VFlags)
    (h : vArray c ver tag maxN errMax items s = .ok ((xs, fl), s')) :
    ∃ t s1, vTag s = .ok (t, s1) ∧ (t = 0 ∨ t = tag) := by
  obtain ⟨t, n, s1, _, h1, _, _, hc⟩ := vArray_run h
  refine ⟨t, s1, h1, ?_⟩
  split at hc
  · exact hc.2.2.2 ht
  · exact Or.inr hc.1

/-- the witnesses of F3..F6 are rejected by the repaired variant and accepted by the pinned one -/
example : validate VCfg.repaired truncatedFile = false ∧ validate VCfg.asIs truncatedFile = true := by decide
example : validate VCfg.repaired ([0x43, 0x44, 0x46, 1, 0x80, 0, 0, 0] ++ List.replicate 24 0) = false ∧
    validate VCfg.asIs ([0x43, 0x44, 0x46, 1, 0x80, 0, 0, 0] ++ List.replicate 24 0) = true := by decide
example : validate VCfg.repaired ([0x43, 0x44, 0x46, 1, 0, 0, 0, 0, 0, 0, 0, 11, 0, 0, 0, 0] ++ List.replicate 16 0) = false ∧
    validate VCfg.asIs ([0x43, 0x44, 0x46, 1, 0, 0, 0, 0, 0, 0, 0, 11, 0, 0, 0, 0] ++ List.replicate 16 0) = true := by decide
/-- the STREAMING value of numrecs stays accepted -/
example : validate VCfg.repaired ([0x43, 0x44, 0x46, 1, 0xff, 0xff, 0xff, 0xff] ++ List.replicate 24 0) = true := by decide

/-- a file without the classic magic (or shorter than 8 bytes) is rejected -/
theorem validate_magic (c : VCfg) (b : Bytes) (hv : validate c b = true) :
    ∃ f : Fmt, b = magicBytes f ++ b.drop 4 ∧ 8 ≤ b.length := by
  obtain ⟨h, info, fl, hg, _⟩ := validate_true c b hv
  obtain ⟨f, _, hm, _⟩ := vGetNC_run hg
  exact ⟨f, vMagic_inv hm⟩

/-- `validate_accepts_encoded`: ncvalidator accepts (exit status 0) every file that begins with the bytes the
    library's writer produces for a header `d` — any dimensions, attributes (any type, length 0 included),
    variables, any data after it — provided the fields fit their widths (`Encodable`), the counts are within the
    library's own limits with at most one record dimension and dimension ids in range (`VLimits`), and the
    library's own reader accepts the layout (`postPass`: shapes, sizes, begins in order without overlap).  It reads
    back exactly `d` and derives exactly the library's layout `info`. -/
theorem validate_accepts_encoded (c : VCfg) (d : Schema) (data : Bytes) (info : Info) (he : Encodable d) (hl : VLimits d)
    (hp : postPass d = .ok info) :
    validate c (encodeRaw d ++ data) = true ∧ vGetNC c (encodeRaw d ++ data) = .ok (d, info, VFlags.ok) := by
  have h := vGetNC_put c d data info he hl hp
  refine ⟨?_, h⟩
  unfold validate
  rw [h]
  exact if_neg fun hc => absurd hc.2 (by
    rw [List.length_append, PnVerif.Props.C04.encode_length d (namesNoNul_of_encodable d he)]; omega)

/-- the same for every layout the format specification allows (`Spec.LayoutValid`: valid dimension references,
    record dimension first only, variables after the header in definition order without overlap, gaps anywhere) -/
theorem validate_accepts_layoutValid (c : VCfg) (d : Schema) (data : Bytes) (he : Encodable d) (hl : VLimits d)
    (hv : d.LayoutValid (Hdr.len d)) : validate c (encodeRaw d ++ data) = true := by
  obtain ⟨info, hp⟩ := postPass_ok d hv
  exact (validate_accepts_encoded c d data info he hl hp).1

/-! non-vacuity: the CDF-1 header of C04 (gap before the first variable, stale and saturated vsize, zero-length
    attribute, record variable) meets every hypothesis -/
theorem exampleHdr_limits : VLimits PnVerif.Props.C04.exampleHdr := by
  constructor <;> simp [PnVerif.Props.C04.exampleHdr, NC_MAX_DIMS, NC_MAX_ATTRS, NC_MAX_VARS, NC_MAX_INT, NC_MAX_VAR_DIMS, vsizeLim]

theorem exampleHdr_encodable : Encodable PnVerif.Props.C04.exampleHdr := by
  refine ⟨by decide, by decide, fun x hx => ?_, by decide, fun a ha => ?_, by decide, fun v hv => ?_⟩
  · simp only [PnVerif.Props.C04.exampleHdr, List.mem_cons, List.mem_nil_iff, or_false] at hx
    rcases hx with rfl | rfl <;> exact ⟨by unfold NoNul; decide, by decide, by decide⟩
  · simp only [PnVerif.Props.C04.exampleHdr, List.mem_cons, List.mem_nil_iff, or_false] at ha
    rcases ha with rfl | rfl <;> exact ⟨by unfold NoNul; decide, by decide, by decide, by decide, by decide⟩
  · simp only [PnVerif.Props.C04.exampleHdr, List.mem_cons, List.mem_nil_iff, or_false] at hv
    rcases hv with rfl | rfl <;>
      exact ⟨by unfold NoNul; decide, by decide, by decide, by decide, by decide, fun a ha => (nomatch ha), by decide,
        by decide, by decide⟩

theorem exampleHdr_postPass : postPass PnVerif.Props.C04.exampleHdr =
    .ok { xsz := 168, beginVar := 400, beginRec := 512, recsize := 3, numRecVars := 1, shapes := [[3], [0, 3]], lens := [12, 4] } := by
  rfl

example : VLimits PnVerif.Props.C04.exampleHdr := exampleHdr_limits

-- the validator run on the encoded bytes themselves (kernel evaluation), trailing bytes included
set_option maxRecDepth 100000 in
example : validate VCfg.asIs (encodeRaw PnVerif.Props.C04.exampleHdr ++ [1, 2, 3]) = true ∧
    validate VCfg.repaired (encodeRaw PnVerif.Props.C04.exampleHdr ++ [1, 2, 3]) = true :=
  ⟨by decide +kernel, by decide +kernel⟩

set_option maxRecDepth 100000 in
example : ∃ info, vGetNC VCfg.repaired (encodeRaw PnVerif.Props.C04.exampleHdr) = .ok (PnVerif.Props.C04.exampleHdr, info, VFlags.ok) ∧
    Hdr.len PnVerif.Props.C04.exampleHdr ≤ (encodeRaw PnVerif.Props.C04.exampleHdr).length :=
  ⟨_, by simpa using (validate_accepts_encoded VCfg.repaired _ [] _ exampleHdr_encodable exampleHdr_limits exampleHdr_postPass).2,
   Nat.le_of_eq (PnVerif.Props.C04.encode_length _ (namesNoNul_of_encodable _ exampleHdr_encodable)).symm⟩

/-! ## cdfdiff / ncmpidiff

  `toolDiff cfg a b` is the transcription of the comparison loops of cdfdiff.c (`cdfdiffCfg`) and ncmpidiff.c
  (`ncmpidiffCfg`) on the view `absFile` both tools have of a file (nothing of the layout is left in it: values
  are read at each file's own offsets).  `LogicalEq` is the specification: same format version and same names,
  types, shapes, attributes and values, whatever the definition order. -/

/-- `diff_refl`: a file never differs from itself (either tool) -/
theorem diff_refl (cfg : DiffCfg) (a : LFile) (wa : LWF a) : toolDiff cfg a a = .counts 0 0 :=
  toolDiff_of_logicalEq cfg wa wa (LogicalEq.refl a)

/-- "no difference reported" is complete: files with the same format and the same logical content are never
    reported different, by either tool, whatever their layouts and definition orders (no hypothesis on types,
    record counts or the tool) -/
theorem diff_complete (cfg : DiffCfg) (a b : LFile) (wa : LWF a) (wb : LWF b) (E : LogicalEq a b) :
    (toolDiff cfg a b).same = true :=
  (same_iff _).mpr (toolDiff_of_logicalEq cfg wa wb E)

/-- Full-strength statement of `diff_iff_logical_eq` for a tool: no difference is reported EXACTLY when the two
    files have the same format and the same logical content. -/
def diff_iff_logical_eq_Statement (cfg : DiffCfg) : Prop :=
  ∀ a b : LFile, LWF a → LWF b → ((toolDiff cfg a b).same = true ↔ LogicalEq a b)

/-- witness of finding C20-F1: B = A plus one more record -/
def recA : LFile :=
  { fmt := .cdf1, numrecs := 2, dims := [⟨[0x74], 0⟩, ⟨[0x78], 3⟩], gatts := [⟨[0x67], .char, 2, [104, 105]⟩],
    vars := [{ name := [0x76], xtype := .byte, dims := [⟨[0x74], 0⟩, ⟨[0x78], 3⟩], isRec := true, atts := [],
               data := fun r => if r < 2 then [UInt8.ofNat r, 7, 7] else [] }] }
def recB : LFile :=
  { fmt := .cdf1, numrecs := 3, dims := [⟨[0x74], 0⟩, ⟨[0x78], 3⟩], gatts := [⟨[0x67], .char, 2, [104, 105]⟩],
    vars := [{ name := [0x76], xtype := .byte, dims := [⟨[0x74], 0⟩, ⟨[0x78], 3⟩], isRec := true, atts := [],
               data := fun r => if r < 3 then [UInt8.ofNat r, 7, 7] else [] }] }
/-- witness of finding C20-F2: one value of an NC_BYTE variable changed -/
def recC : LFile :=
  { fmt := .cdf1, numrecs := 2, dims := [⟨[0x74], 0⟩, ⟨[0x78], 3⟩], gatts := [⟨[0x67], .char, 2, [104, 105]⟩],
    vars := [{ name := [0x76], xtype := .byte, dims := [⟨[0x74], 0⟩, ⟨[0x78], 3⟩], isRec := true, atts := [],
               data := fun r => if r < 2 then [UInt8.ofNat r, 9, 7] else [] }] }

theorem recA_wf : LWF recA := ⟨by decide, by decide, by decide, by decide⟩
theorem recB_wf : LWF recB := ⟨by decide, by decide, by decide, by decide⟩
theorem recC_wf : LWF recC := ⟨by decide, by decide, by decide, by decide⟩

/-- cdfdiff: refuted (it runs over the first file's record count only and never compares numrecs) -/
theorem diff_iff_logical_eq_counterexample_cdfdiff : ¬ diff_iff_logical_eq_Statement cdfdiffCfg := by
  intro hS
  have h1 : (toolDiff cdfdiffCfg recA recB).same = true := by decide
  have := ((hS recA recB recA_wf recB_wf).mp h1).numrecs
  exact absurd this (by decide)

/-- ncmpidiff: refuted (no `case NC_BYTE`) -/
theorem diff_iff_logical_eq_counterexample_ncmpidiff : ¬ diff_iff_logical_eq_Statement ncmpidiffCfg := by
  intro hS
  have h1 : (toolDiff ncmpidiffCfg recA recC).same = true := by decide
  have E := (hS recA recC recA_wf recC_wf).mp h1
  have := (E.vars [0x76] _ _ rfl rfl).data 0 (by decide)
  exact absurd this (by decide)

/-- `diff_iff_logical_eq_partial`: with exactly the hypotheses the two findings call for — equal record counts,
    nothing of a type the tool skips in the first file, the tool's view of dimension lengths faithful — no
    difference is reported exactly when the files have the same format and the same logical content.  All
    definition orders, all layouts, all types and shapes, any number of dimensions/attributes/variables. -/
theorem diff_iff_logical_eq_partial (cfg : DiffCfg) (a b : LFile) (wa : LWF a) (wb : LWF b) (nb : NoByte cfg a)
    (ag : LenAgree cfg a b) (hn : cfg.cmpNumrecs = true ∨ a.numrecs = b.numrecs) :
    (toolDiff cfg a b).same = true ↔ LogicalEq a b :=
  ⟨fun h => logicalEq_of_toolDiff cfg wa wb nb ag hn ((same_iff _).mp h), fun E => diff_complete cfg a b wa wb E⟩

/-- for cdfdiff `diff_iff_logical_eq_partial` needs only the equal record counts: `NoByte` and `LenAgree` hold of it -/
theorem cdfdiff_iff_logical_eq (a b : LFile) (wa : LWF a) (wb : LWF b) (hn : a.numrecs = b.numrecs) :
    (toolDiff cdfdiffCfg a b).same = true ↔ LogicalEq a b :=
  diff_iff_logical_eq_partial cdfdiffCfg a b wa wb
    (noByte_of_compared rfl) (lenAgree_of_stored rfl) (Or.inr hn)

/-- cdfdiff with the repair of C20-F1 (numrecs compared) needs none of the three hypotheses of
    `diff_iff_logical_eq_partial` -/
theorem cdfdiff_repaired_iff_logical_eq (a b : LFile) (wa : LWF a) (wb : LWF b) :
    (toolDiff cdfdiffRepaired a b).same = true ↔ LogicalEq a b :=
  diff_iff_logical_eq_partial cdfdiffRepaired a b wa wb
    (noByte_of_compared rfl) (lenAgree_of_stored rfl) (Or.inl rfl)

/-- ncmpidiff with the repair of C20-F2 (`case NC_BYTE` present) does not need the hypothesis `NoByte` of
    `diff_iff_logical_eq_partial` -/
theorem ncmpidiff_repaired_iff_logical_eq (a b : LFile) (wa : LWF a) (wb : LWF b) (ag : LenAgree ncmpidiffRepaired a b)
    (hn : a.numrecs = b.numrecs) : (toolDiff ncmpidiffRepaired a b).same = true ↔ LogicalEq a b :=
  diff_iff_logical_eq_partial ncmpidiffRepaired a b wa wb
    (noByte_of_compared rfl) ag (Or.inr hn)

/-- the two witnesses are reported by the repaired tools -/
example : (toolDiff cdfdiffRepaired recA recB).same = false ∧ (toolDiff cdfdiffRepaired recB recA).same = false ∧
    (toolDiff ncmpidiffRepaired recA recC).same = false := by decide

/-- Full-strength statement of `diff_symm` -/
def diff_symm_Statement (cfg : DiffCfg) : Prop :=
  ∀ a b : LFile, LWF a → LWF b → (toolDiff cfg a b).same = (toolDiff cfg b a).same

/-- cdfdiff A B reports nothing, cdfdiff B A reports a read-size difference -/
theorem diff_symm_counterexample_cdfdiff : ¬ diff_symm_Statement cdfdiffCfg := by
  intro hS
  have := hS recA recB recA_wf recB_wf
  exact absurd this (by decide)

/-- under the hypotheses of `diff_iff_logical_eq_partial` for both orders, and with record-ness given by the
    dimensions (`absFile_recByDims`), the verdict does not depend on the order of the two files -/
theorem diff_symm_partial (cfg : DiffCfg) (a b : LFile) (wa : LWF a) (wb : LWF b) (ra : RecByDims a) (rb : RecByDims b)
    (na : NoByte cfg a) (nb : NoByte cfg b) (ag : LenAgree cfg a b) (ag' : LenAgree cfg b a)
    (hn : cfg.cmpNumrecs = true ∨ a.numrecs = b.numrecs) :
    (toolDiff cfg a b).same = (toolDiff cfg b a).same := by
  have h1 := diff_iff_logical_eq_partial cfg a b wa wb na ag hn
  have h2 := diff_iff_logical_eq_partial cfg b a wb wa nb ag' (hn.imp id Eq.symm)
  exact Bool.eq_iff_iff.mpr (h1.trans (Iff.trans ⟨LogicalEq.symm ra rb, LogicalEq.symm rb ra⟩ h2.symm))

/-- `diff_layout_invariant`: replacing the second file by any file with the same format and logical content —
    other begins, alignment, header free space, definition order — does not change whether a difference is
    reported. -/
theorem diff_layout_invariant (cfg : DiffCfg) (a b b' : LFile) (wa : LWF a) (wb : LWF b) (wb' : LWF b')
    (ra : RecByDims a) (rb : RecByDims b) (rb' : RecByDims b') (nb : NoByte cfg a) (ag : LenAgree cfg a b)
    (ag' : LenAgree cfg a b')
    (hn : cfg.cmpNumrecs = true ∨ a.numrecs = b.numrecs) (E : LogicalEq b b') :
    (toolDiff cfg a b).same = (toolDiff cfg a b').same := by
  have h1 := diff_iff_logical_eq_partial cfg a b wa wb nb ag hn
  have h2 := diff_iff_logical_eq_partial cfg a b' wa wb' nb ag' (hn.imp id (fun x => x.trans E.numrecs))
  exact Bool.eq_iff_iff.mpr (h1.trans (Iff.trans
    ⟨fun e => LogicalEq.trans rb ra e E, fun e => LogicalEq.trans rb' ra e (LogicalEq.symm rb rb' E)⟩ h2.symm))

/-- concrete layout change, full strength (the whole output, not only "same"): moving the data section of the
    second file by any number of bytes — more header free space (h_minfree), another alignment of the first
    variable — and adjusting every `begin` changes nothing in what either tool computes.  (`vsize` fields and
    the bytes between header and data are never looked at by `absFile` at all.) -/
theorem diff_layout_invariant_shift (cfg : DiffCfg) (a : LFile) (h : Hdr) (recsize : Nat) (pre gap rest : Bytes)
    (hb : ∀ v ∈ h.vars, pre.length ≤ v.begin) :
    toolDiff cfg a (absFile (shiftBegins gap.length h) recsize (pre ++ gap ++ rest)) =
      toolDiff cfg a (absFile h recsize (pre ++ rest)) := by
  rw [absFile_shift h recsize pre gap rest hb]

/-! ### `diff_detects_single_edit`: one value, one attribute, one name, one dimension length -/

theorem not_same_of_not_logicalEq (cfg : DiffCfg) (a b : LFile) (wa : LWF a) (wb : LWF b) (nb : NoByte cfg a)
    (ag : LenAgree cfg a b) (hn : cfg.cmpNumrecs = true ∨ a.numrecs = b.numrecs) (hne : ¬ LogicalEq a b) :
    (toolDiff cfg a b).same = false :=
  Bool.eq_false_iff.mpr (fun hs => hne ((diff_iff_logical_eq_partial cfg a b wa wb nb ag hn).mp hs))

/-- one value of one variable differs (any type the tool compares, any record that exists) -/
theorem diff_detects_value_edit (cfg : DiffCfg) (a b : LFile) (wa : LWF a) (wb : LWF b) (nb : NoByte cfg a)
    (ag : LenAgree cfg a b) (hn : cfg.cmpNumrecs = true ∨ a.numrecs = b.numrecs) (nm : Bytes) (v w : LVar) (r : Nat)
    (hv : findVar a.vars nm = some v) (hw : findVar b.vars nm = some w)
    (hr : r < (if v.isRec then a.numrecs else 1)) (hd : v.data r ≠ w.data r) : (toolDiff cfg a b).same = false :=
  not_same_of_not_logicalEq cfg a b wa wb nb ag hn (fun E => hd ((E.vars nm v w hv hw).data r hr))

/-- one attribute differs (global, or of a variable present in both files): type, length or any value -/
theorem diff_detects_attribute_edit (cfg : DiffCfg) (a b : LFile) (wa : LWF a) (wb : LWF b) (nb : NoByte cfg a)
    (ag : LenAgree cfg a b) (hn : cfg.cmpNumrecs = true ∨ a.numrecs = b.numrecs) (an : Bytes)
    (hd : findAtt a.gatts an ≠ findAtt b.gatts an ∨
          ∃ nm v w, findVar a.vars nm = some v ∧ findVar b.vars nm = some w ∧ findAtt v.atts an ≠ findAtt w.atts an) :
    (toolDiff cfg a b).same = false :=
  not_same_of_not_logicalEq cfg a b wa wb nb ag hn (fun E => by
    rcases hd with hd | ⟨nm, v, w, hv, hw, hd⟩
    · exact hd (E.gatts an)
    · exact hd ((E.vars nm v w hv hw).atts an))

/-- one name differs: a variable, dimension or global attribute of one file has no namesake in the other -/
theorem diff_detects_name_edit (cfg : DiffCfg) (a b : LFile) (wa : LWF a) (wb : LWF b) (nb : NoByte cfg a)
    (ag : LenAgree cfg a b) (hn : cfg.cmpNumrecs = true ∨ a.numrecs = b.numrecs) (nm : Bytes)
    (hd : (findVar a.vars nm).isSome ≠ (findVar b.vars nm).isSome ∨ (findDim a.dims nm).isSome ≠ (findDim b.dims nm).isSome ∨
          (findAtt a.gatts nm).isSome ≠ (findAtt b.gatts nm).isSome) :
    (toolDiff cfg a b).same = false :=
  not_same_of_not_logicalEq cfg a b wa wb nb ag hn (fun E => by
    rcases hd with hd | hd | hd
    · exact hd (E.varsDef nm)
    · exact hd (by rw [E.dims nm])
    · exact hd (by rw [E.gatts nm]))

/-- one dimension length differs -/
theorem diff_detects_dimlen_edit (cfg : DiffCfg) (a b : LFile) (wa : LWF a) (wb : LWF b) (nb : NoByte cfg a)
    (ag : LenAgree cfg a b) (hn : cfg.cmpNumrecs = true ∨ a.numrecs = b.numrecs) (nm : Bytes) (d e : Dim)
    (hd : findDim a.dims nm = some d) (he : findDim b.dims nm = some e) (hs : d.size ≠ e.size) :
    (toolDiff cfg a b).same = false :=
  not_same_of_not_logicalEq cfg a b wa wb nb ag hn (fun E => by
    have := E.dims nm
    rw [hd, he] at this
    cases this
    exact hs rfl)

/-! non-vacuity of the hypotheses of the partial theorems: recA / recC (one byte value differs) under cdfdiff -/
example : NoByte cdfdiffCfg recA ∧ LenAgree cdfdiffCfg recA recC ∧ recA.numrecs = recC.numrecs ∧
    (toolDiff cdfdiffCfg recA recC).same = false ∧ (toolDiff cdfdiffCfg recA recA).same = true :=
  ⟨noByte_of_compared rfl, lenAgree_of_stored rfl, rfl, by decide, by decide⟩

/-! the same for ncmpidiff: an NC_INT record variable, one value changed in the second record -/
def intA : LFile :=
  { fmt := .cdf2, numrecs := 2, dims := [⟨[0x74], 0⟩, ⟨[0x78], 1⟩], gatts := [],
    vars := [{ name := [0x76], xtype := .int, dims := [⟨[0x74], 0⟩, ⟨[0x78], 1⟩], isRec := true, atts := [⟨[0x75], .char, 1, [109]⟩],
               data := fun r => if r < 2 then [0, 0, 0, UInt8.ofNat r] else [] }] }
def intB : LFile :=
  { fmt := .cdf2, numrecs := 2, dims := [⟨[0x74], 0⟩, ⟨[0x78], 1⟩], gatts := [],
    vars := [{ name := [0x76], xtype := .int, dims := [⟨[0x74], 0⟩, ⟨[0x78], 1⟩], isRec := true, atts := [⟨[0x75], .char, 1, [109]⟩],
               data := fun r => if r < 2 then [0, 0, 0, UInt8.ofNat (7 * r)] else [] }] }

example : NoByte ncmpidiffCfg intA ∧ LenAgree ncmpidiffCfg intA intB ∧ intA.numrecs = intB.numrecs ∧
    (toolDiff ncmpidiffCfg intA intB).same = false ∧ (toolDiff ncmpidiffCfg intA intA).same = true :=
  ⟨⟨by decide, by decide⟩, ⟨by decide, by decide⟩, rfl, by decide, by decide⟩

/-- `ncmpidiff_partition_covers`: for EVERY length L of the partitioned dimension and EVERY number of processes
    n ≥ 1, the (start, count) blocks ncmpidiff gives its ranks are pairwise disjoint and their union is [0, L):
    each index belongs to the block of exactly one rank. -/
theorem ncmpidiff_partition_covers (L n : Nat) (hn : 1 ≤ n) (i : Nat) (hi : i < L) :
    ∃ r, r < n ∧ ((rankBlock L n r).1 ≤ i ∧ i < (rankBlock L n r).1 + (rankBlock L n r).2) ∧
      ∀ r', r' < n → ((rankBlock L n r').1 ≤ i ∧ i < (rankBlock L n r').1 + (rankBlock L n r').2) → r' = r :=
  (rankBlock_partition L n hn).1 i hi

/-- the blocks stay inside the dimension -/
theorem ncmpidiff_block_inside (L n r : Nat) (hn : 1 ≤ n) (hr : r < n) : (rankBlock L n r).1 + (rankBlock L n r).2 ≤ L :=
  (rankBlock_partition L n hn).2 r hr

/-- for every shape (fixed-size or record variable: the record dimension enters with its current length), every
    element is inside the start[]/shape[] box of some rank -/
theorem ncmpidiff_every_element_compared (nprocs : Nat) (hn : 1 ≤ nprocs) (shape idx : List Nat)
    (h : inShape idx shape = true) : ∃ r, r < nprocs ∧ inBox idx (rankBox nprocs r shape) = true := by
  induction shape generalizing idx with
  | nil => exact ⟨0, hn, h⟩
  | cons s rest ih =>
    cases idx with
    | nil => cases h
    | cons i is =>
      rw [inShape_cons] at h
      simp only [rankBox_cons]
      split
      · obtain ⟨r, hr, hin, _⟩ := ncmpidiff_partition_covers s nprocs hn i h.1
        exact ⟨r, hr, hin, h.2⟩
      · obtain ⟨r, hr, hb⟩ := ih is h.2
        exact ⟨r, hr, h.1, hb⟩

/-- `ncmpidiff_multirank_verdict`: "some rank finds a differing element" ⇔ "the variable has a differing element",
    for every number of processes: the verdict of an n-rank run is the verdict of the 1-rank run, so `diff_complete`,
    `diff_iff_logical_eq_partial` and the `diff_detects_*` theorems (stated for the comparison of whole variables)
    hold for ncmpidiff on any number of processes. -/
theorem ncmpidiff_multirank_verdict (nprocs : Nat) (hn : 1 ≤ nprocs) (shape : List Nat) (d : List Nat → Bool) :
    (∃ r, r < nprocs ∧ ∃ idx, inBox idx (rankBox nprocs r shape) = true ∧ d idx = true) ↔
    (∃ idx, inShape idx shape = true ∧ d idx = true) :=
  ⟨fun ⟨r, hr, idx, hb, hd⟩ => ⟨idx, box_inside nprocs r hn hr shape idx hb, hd⟩,
   fun ⟨idx, hs, hd⟩ =>
    let ⟨r, hr, hb⟩ := ncmpidiff_every_element_compared nprocs hn shape idx hs
    ⟨r, hr, idx, hb, hd⟩⟩

/-- on one process the box is the whole variable -/
example : rankBox 1 0 [5, 3] = [(0, 5), (0, 3)] ∧ rankBox 2 0 [5, 3] = [(0, 3), (0, 3)] ∧ rankBox 2 1 [5, 3] = [(3, 2), (0, 3)] ∧
    rankBox 4 2 [3, 9] = [(0, 3), (5, 2)] := by decide

/-- `cdfdiff_chunking_irrelevant`: for EVERY chunk size > 0 (READ_CHUNK_SIZE is 4 MiB), every two files, offsets and
    sizes, the loop that reads min(remaining, chunk) bytes per step from both files decides exactly "the two byte
    ranges are equal" — also when a file ends early (short reads). -/
theorem cdfdiff_chunking_irrelevant (chunk : Nat) (hc : 0 < chunk) (f1 f2 : Bytes) (off1 off2 n : Nat) :
    cdfdiffRecordSame chunk f1 f2 off1 off2 n = (rdAt f1 off1 n == rdAt f2 off2 n) := by
  unfold cdfdiffRecordSame rdAt
  rw [chunkLoop_eq chunk _ _ _ _ (Nat.le_trans (Nat.min_le_left _ _) (nChunks_covers n chunk hc)), Bool.eq_iff_iff,
    decide_eq_true_iff, beq_iff_eq]

/-- so the chunked loop on record r of a variable is the comparison `v.data r == w.data r` of `toolDiff`
    (`recsSame`), for variables of any size: `diff_layout_invariant`, `diff_iff_logical_eq_partial` and the
    `diff_detects_*` theorems, stated for `toolDiff`, hold for the chunked cdfdiff. -/
theorem cdfdiff_chunking_matches_toolDiff (chunk : Nat) (hc : 0 < chunk) (h1 h2 : Hdr) (rs1 rs2 : Nat) (f1 f2 : Bytes)
    (i j : Nat) (v w : Var) (lv lw : LVar) (r : Nat) (hv : h1.vars[i]? = some v) (hw : h2.vars[j]? = some w)
    (hlv : (absFile h1 rs1 f1).vars[i]? = some lv) (hlw : (absFile h2 rs2 f2).vars[j]? = some lw)
    (hn : varBytes v.xtype.size (lv.dims.map (·.size)) = varBytes w.xtype.size (lw.dims.map (·.size))) :
    cdfdiffRecordSame chunk f1 f2 (v.begin + (if lv.isRec then rs1 else 0) * r) (w.begin + (if lw.isRec then rs2 else 0) * r)
      (varBytes v.xtype.size (lv.dims.map (·.size))) = (lv.data r == lw.data r) := by
  rw [cdfdiff_chunking_irrelevant chunk hc]
  unfold absFile at hlv hlw
  simp only [List.getElem?_map, hv, hw, Option.map_some, Option.some.injEq] at hlv hlw
  subst hlv hlw
  simp only [] at hn ⊢
  rw [← hn]

example : cdfdiffRecordSame 4 [1, 2, 3, 4, 5, 6, 7, 9, 9] [0, 1, 2, 3, 4, 5, 6, 7, 8] 0 1 7 = true ∧
    cdfdiffRecordSame 4 [1, 2, 3, 4, 5, 6, 7, 9, 9] [0, 1, 2, 3, 4, 5, 6, 7, 8] 0 1 8 = false ∧
    cdfdiffRecordSame 3 [1, 2, 3, 4] [1, 2, 3, 4, 5] 0 0 5 = false := by decide

theorem offsetsRecs_get (v : Var) (sh : List Nat) (recsize numrecs r : Nat) (hr : r < numrecs) :
    (offsetsRecs v sh recsize numrecs)[r]? =
      some (v.begin + recsize * r, v.begin + dsizes0 sh * v.xtype.size + recsize * r) := by
  unfold offsetsRecs
  simp [hr]

theorem offsetsRecs_length (v : Var) (sh : List Nat) (recsize numrecs : Nat) :
    (offsetsRecs v sh recsize numrecs).length = numrecs := by
  simp [offsetsRecs]

/-- `offsets_records_are_layout`: the r-th (start, end) pair `ncoffsets -r` prints for a record variable is the
    address `begin + recsize * r` the library layout gives record r (the offset `absFile` — cdfdiff, ncmpidiff —
    reads that record at), for every record r < numrecs and any recsize; and exactly numrecs pairs are printed. -/
theorem offsets_records_are_layout (h : Hdr) (recsize : Nat) (file : Bytes) (i : Nat) (v : Var) (sh : List Nat) (lv : LVar) (r : Nat)
    (hr : r < h.numrecs) (hv : h.vars[i]? = some v) (hl : (absFile h recsize file).vars[i]? = some lv) (hrec : lv.isRec = true) :
    (offsetsRecs v sh recsize h.numrecs).length = h.numrecs ∧
    ∃ st en, (offsetsRecs v sh recsize h.numrecs)[r]? = some (st, en) ∧ st = v.begin + recsize * r ∧
      ∃ n, lv.data r = rdAt file st n := by
  refine ⟨offsetsRecs_length v sh recsize h.numrecs, _, _, offsetsRecs_get v sh recsize h.numrecs r hr, rfl, ?_⟩
  unfold absFile at hl
  simp only [List.getElem?_map, hv, Option.map_some, Option.some.injEq] at hl
  subst hl
  simp only [] at hrec ⊢
  rw [hrec]
  exact ⟨_, rfl⟩

/-- the packing rule the report relies on (compute_var_shape / ncmpii_NC_computeshapes): one record variable ⇒ the
    record size is its unpadded size -/
theorem offsets_recsize_packing (st : CvsState) (fb flen fpacked : Nat) (hf : st.firstRec = some (fb, flen, fpacked))
    (hb : st.beginRec ≤ fb) : cvsRec st = .ok (fb, if st.recsize = flen then fpacked else st.recsize) := by
  unfold cvsRec
  rw [hf]
  exact if_neg (Nat.not_lt.mpr hb)

/-- a CDF-1 file with one fixed-size variable and ONE record variable of 3 shorts: records are 6 bytes apart, not 8 -/
def oneRecVarHdr : Schema :=
  { fmt := .cdf1, numrecs := 3, dims := [{ name := [0x74], size := 0 }, { name := [0x78], size := 3 }], gatts := [],
    vars := [{ name := [0x66], dimids := [1], atts := [], xtype := .int, vsize := 12, begin := 200 },
             { name := [0x72], dimids := [0, 1], atts := [], xtype := .short, vsize := 8, begin := 212 }] }
example : (postPass oneRecVarHdr).toOption.map (·.recsize) = some 6 := by decide

def obligations : List String := [
  "validate_accepts_encoded", "validate_accepts_layoutValid", "validate_sound_counterexample", "validate_sound_partial",
  "validate_canonical", "validate_magic", "validate_sound_repaired", "repaired_array_tag",
  "cdfdiff_repaired_iff_logical_eq", "ncmpidiff_repaired_iff_logical_eq",
  "ncmpidiff_partition_covers", "ncmpidiff_block_inside", "ncmpidiff_every_element_compared", "ncmpidiff_multirank_verdict",
  "offsets_records_are_layout", "offsets_recsize_packing",
  "cdfdiff_chunking_irrelevant", "cdfdiff_chunking_matches_toolDiff",
  "diff_refl", "diff_complete", "diff_iff_logical_eq_counterexample_cdfdiff", "diff_iff_logical_eq_counterexample_ncmpidiff",
  "diff_iff_logical_eq_partial", "cdfdiff_iff_logical_eq", "diff_symm_counterexample_cdfdiff", "diff_symm_partial",
  "diff_layout_invariant", "diff_layout_invariant_shift", "diff_detects_value_edit", "diff_detects_attribute_edit",
  "diff_detects_name_edit", "diff_detects_dimlen_edit"
]
end PnVerif.Props.C20
