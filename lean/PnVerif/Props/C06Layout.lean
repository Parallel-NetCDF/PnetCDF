import PnVerif.Props.C06
import PnVerif.Lemmas.LayoutMove
import PnVerif.Lemmas.Written
/-
  C06 ∘ C03 — the layout facts `LayoutOK` that the data-moving code of ncmpio__enddef needs are
  DERIVED from the model of NC_begins (Model/Layout.lean, the model C03 ties to the library by
  comparing every computed layout with the library's inquiries), for every redefinition: any
  well-formed previous layout, any appended variables, any hints / ncmpi__enddef arguments, any header
  growth.  With it `enddefMove_preserves` does not rest on a hypothesis evaluated at run time:
  `redef_preserves_data` states the preservation for the layout pair NC_begins itself produces.
-/
namespace PnVerif.Props.C06
open PnVerif.Redef PnVerif.Layout PnVerif.Spec PnVerif.Header

theorem FixedOK_of_filter : ∀ (mv : List MVar), FixedOK (mv.filter (fun w => !w.isRec)) → FixedOK mv := by
  intro mv
  induction mv with
  | nil => intro _; simp [FixedOK]
  | cons u us ih =>
    intro h
    by_cases hu : u.isRec = true
    · simp only [List.filter_cons, hu, Bool.not_true] at h
      exact ⟨fun hf => by simp [hu] at hf, ih h⟩
    · have hu' : u.isRec = false := by simpa using hu
      simp only [List.filter_cons, hu', Bool.not_false, if_true, FixedOK] at h
      refine ⟨fun _ => ⟨(h.1 trivial).1, ?_⟩, ih h.2⟩
      intro w hw hwf
      exact (h.1 trivial).2 w (List.mem_filter.mpr ⟨hw, by simp [hwf]⟩) hwf

/-- the numbers of a layout that the moving code reads -/
def layOf (L : Layout) : Lay := ⟨L.beginVar, L.beginRec, L.recsize⟩

/-- **redef_layout_ok**: let `Lo` be any well-formed layout of the variables `ov` (by `history_wf` every
    layout any history of enddefs produced is one), and let NC_begins at the enddef of a redefinition —
    variables `extra` appended, header size `xsz`, any alignments — accept with layout `Ln`.  Then the
    pair (Lo, Ln) satisfies every fact `LayoutOK` the moving code relies on, for every list `mv` that
    pairs the old and the new begins of the old fixed-size variables in definition order (record
    variables in between are ignored by the moving code). -/
theorem redef_layout_ok (fmt : Fmt) (xszO xsz : Nat) (ov extra : List VarL) (alO al : Align) (oldO : Option Old)
    (Lo Ln : Layout) (hwo : LayoutWF xszO ov alO oldO Lo) (hal : AlignOk al)
    (hlen : ∀ v ∈ ov ++ extra, v.len % 4 = 0 ∧ 0 < v.len)
    (hpk : ∀ v ∈ ov, v.packed ≤ v.len)
    (hb : ncBegins fmt xsz (ov ++ extra) al Lo.beginRec (some (toOld ov Lo)) = .ok Ln)
    (mv : List MVar)
    (hmv : mv.filter (fun w => !w.isRec) = fixedMVars (ov.filter (fun v => !v.isRec)) Lo.fixedBegins Ln.fixedBegins)
    (hmvlen : mv.length = ov.length) :
    LayoutOK (layOf Lo) (layOf Ln) (ov ++ extra).length mv := by
  have hwn : LayoutWF xsz (ov ++ extra) al (some (toOld ov Lo)) Ln :=
    ncBegins_wf fmt xsz (ov ++ extra) al Lo.beginRec _ Ln hal hlen (hold_toOld hwo extra) hb
  have hr : Lo.recBegins.length = (ov.filter (fun v => v.isRec)).length := by rw [hwo.recs, consec_length]
  obtain ⟨t1, _, _⟩ := toOld_filters ov Lo.fixedBegins Lo.recBegins hwo.nFixed hr
  obtain ⟨-, m2, m3, -⟩ := hwn.monotone _ rfl
  have m3' : geOld Lo.fixedBegins Ln.fixedBegins := by
    have : ((toOld ov Lo).vars.filter (fun p => !p.1)).map (·.2) = Lo.fixedBegins := t1
    rw [this] at m3; exact m3
  obtain ⟨bvo, _, _, hco, heo⟩ := hwo.fixedOk
  obtain ⟨bvn, _, _, hcn, hen⟩ := hwn.fixedOk
  rw [List.filter_append] at hcn hen
  have hmem : ∀ v ∈ mv, v.isRec = false →
      v ∈ fixedMVars (ov.filter (fun v => !v.isRec)) Lo.fixedBegins Ln.fixedBegins := by
    intro v hv hf
    rw [← hmv]
    exact List.mem_filter.mpr ⟨hv, by simp [hf]⟩
  refine ⟨?_, m2, ?_, ?_, ?_, ?_, ?_, ?_⟩
  · -- fixed
    apply FixedOK_of_filter
    rw [hmv]
    exact fixedOK_of_chains _ _ _ _ _ _ hco hcn m3'
  · -- rsGe
    show Lo.recsize ≤ Ln.recsize
    rw [hwo.recsize, hwn.recsize, List.filter_append]
    exact specRecsize_mono _ _ (fun v hv => hpk v (List.mem_filter.mp hv).1)
  · -- fixedBelowOld
    intro v hv hf
    have := ((chain_bounds _ (extra.filter fun v => !v.isRec) _ Ln.fixedBegins _).1 hco v (hmem v hv hf)).2
    show v.oldBegin + v.len ≤ Lo.beginRec
    omega
  · -- fixedBelowNew
    intro v hv hf
    have := ((chain_bounds _ _ Lo.fixedBegins _ _).2 hcn v (hmem v hv hf)).2
    show v.newBegin + v.len ≤ Ln.beginRec
    omega
  · -- sameIfNoGrow
    intro hng v hv hf
    obtain ⟨endVar, _, hfix, -⟩ := ncBegins_ok hb
    rw [show oldFixedBegins (some (toOld ov Lo)) = Lo.fixedBegins from t1, List.filter_append] at hfix
    refine passFixed_keeps fmt _ _ _ _ bvo _ endVar hfix hco hwo.fixed4 (fun o ho => ?_) v (hmem v hv hf)
    -- the first old variable kept its begin: the extent did not grow
    cases hO : Lo.fixedBegins with
    | nil => rw [hO] at ho; cases ho
    | cons o' os =>
      rw [hO] at ho hfix
      cases ho
      cases hF : ov.filter (fun v => !v.isRec) with
      | nil => have := hwo.nFixed; rw [hO, hF] at this; cases this
      | cons f fs =>
        rw [hF] at hfix
        obtain ⟨bs', hbs, _⟩ := passFixed_cons hfix
        have h1 : Ln.beginVar = max (rndup (initExtent xsz (ov ++ extra).length al (some (toOld ov Lo))) 4) o := by
          rw [hwn.extent, hbs]; rfl
        have h2 : Lo.beginVar = o := by rw [hwo.extent, hO]; rfl
        have : Ln.beginVar ≤ Lo.beginVar := hng
        omega
  · -- nvarsGe
    rw [hmvlen, List.length_append]; omega
  · -- recNeedsVar
    intro hpos
    have hpos' : 0 < Lo.recsize := hpos
    rw [hmvlen]
    cases ov with
    | nil => rw [hwo.recsize] at hpos'; simp [specRecsize, sumLen] at hpos'
    | cons a as => simp

/-- **redef_preserves_data**: `enddefMove_preserves` for the layout pair NC_begins produces — no
    layout hypothesis left: for every well-formed previous layout, every set of appended variables,
    every alignment request, every process count, MOVE_UNIT, file content and record count, after the
    moving step of ncmpio__enddef every existing byte of every old fixed-size variable is at the
    variable's new begin and every existing byte of every record is at its new place. -/
theorem redef_preserves_data (m : ReadMode) (nprocs unit : Nat) (hp : 1 ≤ nprocs) (hu : 1 ≤ unit) (f : File)
    (fmt : Fmt) (xszO xsz : Nat) (ov extra : List VarL) (alO al : Align) (oldO : Option Old)
    (Lo Ln : Layout) (hwo : LayoutWF xszO ov alO oldO Lo) (hal : AlignOk al)
    (hlen : ∀ v ∈ ov ++ extra, v.len % 4 = 0 ∧ 0 < v.len)
    (hpk : ∀ v ∈ ov, v.packed ≤ v.len)
    (hb : ncBegins fmt xsz (ov ++ extra) al Lo.beginRec (some (toOld ov Lo)) = .ok Ln)
    (mv : List MVar)
    (hmv : mv.filter (fun w => !w.isRec) = fixedMVars (ov.filter (fun v => !v.isRec)) Lo.fixedBegins Ln.fixedBegins)
    (hmvlen : mv.length = ov.length) (numrecs : Nat) :
    (∀ v ∈ mv, v.isRec = false → ∀ k, k < v.len → v.oldBegin + k < f.length →
      rd (enddefMove m nprocs unit f (layOf Lo) (layOf Ln) (ov ++ extra).length numrecs mv) (v.newBegin + k)
        = rd f (v.oldBegin + k)) ∧
    (∀ r k, r < numrecs → k < Lo.recsize → Lo.beginRec + r * Lo.recsize + k < f.length →
      rd (enddefMove m nprocs unit f (layOf Lo) (layOf Ln) (ov ++ extra).length numrecs mv)
          (Ln.beginRec + r * Ln.recsize + k)
        = rd f (Lo.beginRec + r * Lo.recsize + k)) :=
  enddefMove_preserves m nprocs unit hp hu f (layOf Lo) (layOf Ln) (ov ++ extra).length numrecs mv
    (redef_layout_ok fmt xszO xsz ov extra alO al oldO Lo Ln hwo hal hlen hpk hb mv hmv hmvlen)

/-- consecutive enddefs of a history -/
def stepPairs : List Step → List (Step × Step)
  | a :: b :: rest => (a, b) :: stepPairs (b :: rest)
  | _ => []

/-- what `redef_layout_ok` concludes, for one pair of consecutive enddefs -/
def PairOK (a b : Step) : Prop :=
  ∀ mv : List MVar,
    mv.filter (fun w => !w.isRec) = fixedMVars (a.vars.filter (fun v => !v.isRec)) a.L.fixedBegins b.L.fixedBegins →
    mv.length = a.vars.length → LayoutOK (layOf a.L) (layOf b.L) b.vars.length mv

theorem history_pairs_from (fmt : Fmt) : ∀ (ps : List Phase) (a : Step) (steps : List Step),
    LayoutWF a.xsz a.vars a.al a.old a.L →
    (∀ v ∈ a.vars, (v.len % 4 = 0 ∧ 0 < v.len) ∧ v.packed ≤ v.len) →
    (∀ p ∈ ps, ∀ v ∈ p.extra, (v.len % 4 = 0 ∧ 0 < v.len) ∧ v.packed ≤ v.len) →
    runHistory fmt a.vars a.L.beginRec (some (toOld a.vars a.L)) ps = .ok steps →
    ∀ pr ∈ stepPairs (a :: steps), PairOK pr.1 pr.2 := by
  intro ps
  induction ps with
  | nil =>
    intro a steps _ _ _ h
    cases h
    exact fun pr hpr => nomatch hpr
  | cons p ps ih =>
    intro a steps hwa hva hps h
    obtain ⟨L, rest, hL, hrest, rfl⟩ := runHistory_cons h
    have hv' : ∀ v ∈ a.vars ++ p.extra, (v.len % 4 = 0 ∧ 0 < v.len) ∧ v.packed ≤ v.len := fun v hm =>
      (List.mem_append.mp hm).elim (hva v) (hps p List.mem_cons_self v)
    have hal := resolveAlign_ok p.envH p.envV p.envR p.hMin p.argV p.vMin p.argR
      ((a.vars ++ p.extra).length - (a.vars.filter (fun v => v.isRec)).length) (some (toOld a.vars a.L)).isSome
    have hwb := ncBegins_wf fmt p.xsz (a.vars ++ p.extra) _ a.L.beginRec (some (toOld a.vars a.L)) L hal
      (fun v hv => (hv' v hv).1) (hold_toOld hwa p.extra) hL
    intro pr hpr
    rcases List.mem_cons.mp hpr with rfl | hpr
    · intro mv hmv hlen
      exact redef_layout_ok fmt a.xsz p.xsz a.vars p.extra a.al _ a.old a.L L hwa hal
        (fun v hv => (hv' v hv).1) (fun v hv => (hva v hv).2) hL mv hmv hlen
    · exact ih { xsz := p.xsz, vars := a.vars ++ p.extra, al := _, old := some (toOld a.vars a.L), L := L } rest
        hwb hv' (fun q hq => hps q (List.mem_cons_of_mem _ hq)) hrest pr hpr

/-- **history_layout_ok**: create a file, then ANY number of rounds (define more variables, enddef with
    any hints / ncmpi__enddef arguments, data mode, redef): for every two consecutive enddefs of the
    history the layout pair satisfies every fact the data-moving code relies on — hence, by
    `enddefMove_preserves`, every redefinition of every history keeps every existing byte of every old
    variable and record.  The only hypotheses are the facts `varsOf_len` / `varsOf_packed` prove of
    every variable computed from a schema. -/
theorem history_layout_ok (fmt : Fmt) (ps : List Phase) (steps : List Step)
    (hps : ∀ p ∈ ps, ∀ v ∈ p.extra, (v.len % 4 = 0 ∧ 0 < v.len) ∧ v.packed ≤ v.len)
    (h : runHistory fmt [] 0 none ps = .ok steps) :
    ∀ pr ∈ stepPairs steps, PairOK pr.1 pr.2 := by
  cases ps with
  | nil =>
    cases h
    exact fun pr hpr => nomatch hpr
  | cons p ps =>
    obtain ⟨L, rest, hL, hrest, rfl⟩ := runHistory_cons h
    have hv' : ∀ v ∈ ([] : List VarL) ++ p.extra, (v.len % 4 = 0 ∧ 0 < v.len) ∧ v.packed ≤ v.len :=
      fun v hm => hps p List.mem_cons_self v hm
    have hwa := ncBegins_wf fmt p.xsz ([] ++ p.extra) _ 0 none L (resolveAlign_ok _ _ _ _ _ _ _ _ _)
      (fun v hv => (hv' v hv).1) (fun o ho => nomatch ho) hL
    exact history_pairs_from fmt ps { xsz := p.xsz, vars := [] ++ p.extra, al := _, old := none, L := L } rest
      hwa hv' (fun q hq => hps q (List.mem_cons_of_mem _ hq)) hrest

/-- the side conditions of `redef_layout_ok` on the variable list (`len` a positive multiple of 4,
    `packed ≤ len`) are no assumptions when the list comes from a schema through the model of
    ncmpio_NC_var_shape64 (every dimension list, type and shape the C accepts) -/
theorem packed_le_len_schema (h : Hdr) (vars : List VarL) (hv : varsOf h = .ok vars) :
    (∀ v ∈ vars, v.len % 4 = 0 ∧ 0 < v.len) ∧ (∀ v ∈ vars, v.packed ≤ v.len) :=
  ⟨varsOf_len h vars hv, varsOf_packed h vars hv⟩

/-! non-vacuity: a new CDF-1 file with a fixed int[10], a record variable and a second fixed variable
   (header 100 bytes, default alignment); the redefinition appends a fixed and a record variable and
   the header grows to 700 bytes, beyond the old extent 512: NC_begins accepts both, the old layout is
   well formed, everything moves up, and the hypotheses of `redef_layout_ok` are met by the paired
   list `exMv`. -/
def exOv : List VarL := [⟨false, 40, 40⟩, ⟨true, 8, 6⟩, ⟨false, 12, 12⟩]
def exExtra : List VarL := [⟨false, 16, 16⟩, ⟨true, 4, 4⟩]
def exLo : Layout := { xsz := 100, beginVar := 512, beginRec := 564, recsize := 6, fixedBegins := [512, 552], recBegins := [564] }
def exLn : Layout := { xsz := 700, beginVar := 700, beginRec := 768, recsize := 12, fixedBegins := [700, 740, 752], recBegins := [768, 776] }
def exMv : List MVar := [⟨512, 700, 40, false⟩, ⟨564, 768, 8, true⟩, ⟨552, 740, 12, false⟩]

example : ncBegins .cdf1 100 exOv (resolveAlign 0 0 0 0 0 0 0 3 false) 0 none = .ok exLo := by rfl
example : ncBegins .cdf1 700 (exOv ++ exExtra) (resolveAlign 0 0 0 0 4 0 4 4 true) exLo.beginRec (some (toOld exOv exLo)) = .ok exLn := by rfl
example : LayoutWF 100 exOv (resolveAlign 0 0 0 0 0 0 0 3 false) none exLo :=
  ncBegins_wf .cdf1 100 exOv _ 0 none exLo (resolveAlign_ok _ _ _ _ _ _ _ _ _) (by decide) (fun o ho => by cases ho) (by rfl)
example : exMv.filter (fun w => !w.isRec) = fixedMVars (exOv.filter (fun v => !v.isRec)) exLo.fixedBegins exLn.fixedBegins ∧
    exMv.length = exOv.length ∧ (∀ v ∈ exOv, v.packed ≤ v.len) ∧ (∀ v ∈ exOv ++ exExtra, v.len % 4 = 0 ∧ 0 < v.len) := by decide

/-- the hypotheses of `redef_layout_ok` are jointly satisfiable: the theorem applied to the concrete pair -/
example : LayoutOK (layOf exLo) (layOf exLn) (exOv ++ exExtra).length exMv :=
  redef_layout_ok .cdf1 100 700 exOv exExtra (resolveAlign 0 0 0 0 0 0 0 3 false) (resolveAlign 0 0 0 0 4 0 4 4 true) none exLo exLn
    (ncBegins_wf .cdf1 100 exOv _ 0 none exLo (resolveAlign_ok _ _ _ _ _ _ _ _ _) (by decide) (fun o ho => by cases ho) (by rfl))
    (resolveAlign_ok _ _ _ _ _ _ _ _ _) (by decide) (by decide) (by rfl) exMv (by decide) (by decide)

/-- non-vacuity of `history_layout_ok`: a three-phase history (create with three variables, a redefinition
    that appends a fixed and a record variable and grows the header beyond its extent, a redefinition
    that only adds free space) is accepted and has two consecutive pairs -/
example : ∃ steps, runHistory .cdf1 [] 0 none
      [⟨100, exOv, 0, 0, 0, 0, 0, 0, 0⟩, ⟨700, exExtra, 0, 0, 0, 0, 4, 0, 4⟩, ⟨720, [], 0, 0, 0, 64, 0, 32, 0⟩] = .ok steps ∧
    (stepPairs steps).length = 2 ∧ (steps.map (fun s => s.L.beginVar)) = [512, 700, 784] := ⟨_, rfl, rfl, rfl⟩

end PnVerif.Props.C06

namespace PnVerif.Props.C06Layout
def obligations : List String := ["FixedOK_of_filter", "redef_layout_ok", "redef_preserves_data", "packed_le_len_schema", "history_pairs_from", "history_layout_ok"]
end PnVerif.Props.C06Layout
