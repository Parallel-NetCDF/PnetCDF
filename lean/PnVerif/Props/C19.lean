import PnVerif.Lemmas.Safety
import PnVerif.Lemmas.SafetyWork
import PnVerif.Lemmas.SafetyWf
import PnVerif.Lemmas.SafetyStrict
import PnVerif.Lemmas.SafetyEof
import PnVerif.Props.C04
/-
  C19 — memory safety; malformed files fail cleanly: THE HALF THEOREMS CAN CARRY.

  Everything here is about the model of the header reader (Model/Header.lean, a transcription of
  ncmpio_header_get.c tied to the C by the C04 and C19 correspondence runs) and the instrumented copy
  of its window primitives (Model/Safety.lean).  What no theorem about a model can show — undefined
  behaviour, out-of-bounds accesses, use after free, NULL dereferences in the compiled C — is the
  business of the sanitizer runs of checks/c19.py and is labelled as such there.
-/
namespace PnVerif.Props.C19
open PnVerif.Spec PnVerif.Header PnVerif.Safety

/-! ### (1) totality -/

/-- The header decoder terminates on EVERY byte string, for every read chunk size, with a header or
    an NC error.  The model has no fuel: `run` recurses on the reader program (a well-founded tree),
    and the only loop whose termination is not structural, the copy loop of hdr_get_NC_name /
    hdr_get_NC_attrV, terminates by the measure "bytes still to copy" — which decreases in every
    iteration because the exit "nothing copied" (where the C would spin forever) is NEVER taken
    (`decodeStuck = false`).  The chunked reader and the reader with the whole file in view give the
    same answer. -/
theorem decode_total (c : Nat) (file : Bytes) :
    decodeStuck c file = false ∧ decodeChunked c file = decodeWhole file ∧
    ((∃ h info, decodeWhole file = .ok (h, info)) ∨ (∃ e, decodeWhole file = .error e)) := by
  refine ⟨?_, PnVerif.Props.C04.chunk_independent c file, ?_⟩
  · have hc := chunkOf_ge c
    unfold decodeStuck
    simp only [fetch_init_eq]
    split
    · rfl
    · rename_i f _
      exact (winRun_ok (by omega) (getBody f) _ _ (inv_body c file)).moves
  · cases h : decodeWhole file with
    | error e => exact .inr ⟨e, rfl⟩
    | ok r => exact .inl ⟨r.1, r.2, rfl⟩

/-- The explicit measure of the copy loop: in every state the window can reach (any chunk size > 0,
    any file, any fill level of the buffer), copying `n` bytes never gets stuck and takes at most
    n / chunk + 2 iterations (fetch-if-empty + one memcpy): the first takes what is left in the
    buffer, every later one a whole chunk. -/
theorem copy_loop_terminates (file : Bytes) (chunk : Nat) (hc : 0 < chunk) (n : Nat) (w : Win) (s : Bytes)
    (h : Inv file chunk w s) :
    getBytesStuck file chunk n w = false ∧ getBytesIters file chunk n w ≤ n / chunk + 2 :=
  ⟨getBytesStuck_false hc n w s h, getBytesIters_le hc n w s h⟩

/-! ### (2) the window never leaves its buffer -/

/-- For EVERY reader program, every chunk size ≥ 8 (the largest fixed-size read), every file and
    every window state that presents the stream, every access the window machinery performs —
    memmove source and destination, MPI read destination, zero fill, 4/8-byte reads, memcpy source
    inside the chunk buffer, memcpy destination inside the name / value being filled, the padding
    skip — is inside its object: index + length ≤ size. -/
theorem window_safe_general (file : Bytes) (chunk : Nat) (hc : 8 ≤ chunk) {α : Type} (p : P α) (w : Win) (s : Bytes)
    (h : Inv file chunk w s) : ∀ a ∈ traceRun file chunk p w, a.Safe :=
  (winRun_ok hc p w s h).safe

/-- ncmpio_hdr_get_NC as a whole: for every value of ncp->chunk (the effective chunk is
    RNDUP(MAX(36, chunk), 4)) and every byte string, every recorded access — the first hdr_fetch, the
    magic, the HDF5 signature probe, and everything the header body does — is in range. -/
theorem window_safe (c : Nat) (file : Bytes) : ∀ a ∈ decodeTrace c file, a.Safe := by
  have hc := chunkOf_ge c
  have hfirst : ∀ a ∈ fetchAcc file (chunkOf c) { buf := zeros (chunkOf c), pos := 0, off := 0 } ++
      [({ kind := .fixed, idx := 0, len := 4, size := chunkOf c } : Acc)], a.Safe :=
    List.forall_mem_append.mpr ⟨fetchAcc_safe file (chunkOf c) _ (Nat.zero_le _),
      List.forall_mem_singleton.mpr (show 0 + 4 ≤ chunkOf c by omega)⟩
  unfold decodeTrace
  simp only [fetch_init_eq]
  split
  · split
    · exact List.forall_mem_append.mpr ⟨hfirst, List.forall_mem_singleton.mpr (show 4 + 8 ≤ chunkOf c by omega)⟩
    · exact hfirst
  · rename_i f _
    exact List.forall_mem_append.mpr ⟨hfirst, (winRun_ok (by omega) (getBody f) _ _ (inv_body c file)).safe⟩

/-! ### (3) an accepted header is self-consistent -/

/-- what "self-consistent metadata" means for a header `h` with the derived layout `info` -/
structure WF (h : Hdr) (info : Info) : Prop where
  /-- every dimension id of every variable names an existing dimension -/
  dimids   : ∀ v ∈ h.vars, ∀ id ∈ v.dimids, id < h.dims.length
  /-- at most one unlimited dimension -/
  oneRec   : (h.dims.filter (fun d => d.size == 0)).length ≤ 1
  /-- the unlimited dimension is used only as the first dimension of a variable -/
  recFirst : ∀ v ∈ h.vars, ∀ id ∈ v.dimids.drop 1, h.isRecDim id = false
  /-- names have at most NC_MAX_NAME bytes -/
  dimNames : ∀ d ∈ h.dims, d.name.length ≤ NC_MAX_NAME
  varNames : ∀ v ∈ h.vars, v.name.length ≤ NC_MAX_NAME
  attNames : (∀ a ∈ h.gatts, a.name.length ≤ NC_MAX_NAME) ∧ ∀ v ∈ h.vars, ∀ a ∈ v.atts, a.name.length ≤ NC_MAX_NAME
  /-- attribute nelems × element size = length of the value held -/
  attVals  : (∀ a ∈ h.gatts, a.xvalue.length = a.nelems * a.xtype.size) ∧
             ∀ v ∈ h.vars, ∀ a ∈ v.atts, a.xvalue.length = a.nelems * a.xtype.size
  /-- the extended types occur only in CDF-5 -/
  types    : (∀ a ∈ h.gatts, a.xtype.okFor h.fmt = true) ∧
             ∀ v ∈ h.vars, v.xtype.okFor h.fmt = true ∧ ∀ a ∈ v.atts, a.xtype.okFor h.fmt = true
  /-- the variable lengths in use are the ones the format prescribes, the header size is the
      size of the encoded header, and the data starts after the header -/
  lens     : info.lens = h.vars.map h.varLen
  xsz      : info.xsz = Hdr.len h
  extent   : h.vars ≠ [] → info.xsz ≤ info.beginVar
  /-- sizes and begins pass ncmpio_NC_check_vlens / ncmpio_NC_check_voffs -/
  vlens    : checkVlens h.fmt.version ((h.vars.map (fun v => v.xtype.size)).zip info.shapes) = .ok ()
  voffs    : checkVoffs info.beginVar info.beginRec info.numRecVars
               ((info.shapes.map isRecShape).zip ((h.vars.map (fun v => v.begin)).zip info.lens)) = .ok ()

theorem okFor_of_code {t : NcType} {f : Fmt} (h : f.version < 5 → t.code ≤ 6) : t.okFor f = true := by
  cases f
  · simpa [NcType.okFor, Fmt.version] using h
  · simpa [NcType.okFor, Fmt.version] using h
  · rfl

/-- Whenever the decoder accepts a byte string — any byte string: truncated, bit-flipped, with
    extreme field values — the header it returns is self-consistent. -/
theorem decode_ok_wf (file : Bytes) (h : Hdr) (info : Info) (hd : decodeWhole file = .ok (h, info)) :
    WF h info := by
  obtain ⟨f, s', hm, hr, hp⟩ := decodeWhole_ok hd
  have hok := (post_getBody f _ _ _ hr).2
  obtain ⟨l1, l2⟩ := postPass_lens h info hp
  obtain ⟨-, -, c1, c2⟩ := postPass_inv hp
  exact {
    dimids := fun v hv => (hok.vars v hv).dimids
    oneRec := hok.oneRec
    recFirst := postPass_recFirst h info hp
    dimNames := hok.dimNames
    varNames := fun v hv => (hok.vars v hv).name
    attNames := ⟨fun a ha => (hok.gatts a ha).name, fun v hv a ha => ((hok.vars v hv).atts a ha).name⟩
    attVals := ⟨fun a ha => (hok.gatts a ha).value, fun v hv a ha => ((hok.vars v hv).atts a ha).value⟩
    types := ⟨fun a ha => okFor_of_code (hok.gatts a ha).type,
              fun v hv => ⟨okFor_of_code (hok.vars v hv).type, fun a ha => okFor_of_code ((hok.vars v hv).atts a ha).type⟩⟩
    lens := l1
    xsz := l2
    extent := fun hv => postPass_extent h info hp hv
    vlens := c1
    voffs := c2 }

/-- the same for the chunked reader, every chunk size -/
theorem decodeChunked_ok_wf (c : Nat) (file : Bytes) (h : Hdr) (info : Info)
    (hd : decodeChunked c file = .ok (h, info)) : WF h info := by
  rw [PnVerif.Props.C04.chunk_independent] at hd
  exact decode_ok_wf file h info hd

/-- … and for ncmpi_open's verdict; the signature test has read 8 bytes by then -/
theorem open_ok_wf (file : Bytes) (h : Hdr) (info : Info) (ho : openVerdict file = .ok (h, info)) :
    WF h info ∧ 8 ≤ file.length := by
  unfold openVerdict at ho
  split at ho
  · contradiction
  · rename_i fmt hfmt
    split at ho
    · contradiction
    · rename_i r hr
      simp only [Except.ok.injEq] at ho
      subst ho
      exact ⟨decode_ok_wf file _ _ hr, inqFileFormat_ok hfmt⟩

/-! ### (4) work is NOT bounded by the size of the file -/

/-- The full-strength statement: the decoder asks MPI-IO for at most one chunk more than the file
    holds (what a reader that notices the end of the file would do), whatever the bytes. -/
def decode_work_bound_Statement : Prop :=
  ∀ (c : Nat) (file : Bytes), bytesFetched c file ≤ file.length + chunkOf c

/-- FALSE of the faithful model, as of the real code (defect F14): the 40-byte CDF-1 file
    `witness40` — one global attribute of 2^31−1 doubles announced, nothing behind it — makes the
    decoder fetch (and allocate for the values) more than 17 GB: hdr_fetch zero-fills beyond the end
    of the file and nelems is trusted before any value byte has been seen. -/
theorem decode_work_bound_counterexample : ¬ decode_work_bound_Statement := by
  intro h
  have h1 := h 262144 witness40
  have h2 := witness40_fetched 262144
  have h3 : chunkOf 262144 = 262144 := by decide
  rw [h3, witness40_length] at h1
  omega

/-- the same for every read chunk size up to 2^33: no choice of chunk repairs it -/
theorem decode_work_unbounded (c : Nat) (hc : c ≤ 8589934592) :
    witness40.length + chunkOf c < bytesFetched c witness40 := by
  have h2 := witness40_fetched c
  have h3 : chunkOf c ≤ 8589934592 + 40 := by unfold chunkOf rndup MIN_NC_XSZ; omega
  rw [witness40_length]
  omega

/-- and the bytes the decoder must hold (the attribute values alone) exceed any multiple of the
    file size below 4·10^8 -/
theorem decode_alloc_unbounded : 400000000 * witness40.length < consumed (getBody .cdf1) (witness40.drop 4) := by
  have := witness40_consumed
  rw [witness40_length]
  omega

/-- The bound HOLDS with exactly one extra hypothesis: no primitive read of the run reaches beyond
    the end of the file (`inBounds`; true of every complete header — e.g. of every file the
    specification decoder accepts — false of `witness40`).  Then at most `file.length` bytes are
    consumed (and held), and at most one chunk more is fetched. -/
theorem decode_work_bound_partial (c : Nat) (file : Bytes)
    (hin : ∀ f, checkMagic (ztake 12 file) = .ok f → inBounds (getBody f) (file.drop 4) = true ∧ 4 ≤ file.length) :
    bytesFetched c file ≤ file.length + chunkOf c ∧
    (∀ f, checkMagic (ztake 12 file) = .ok f → 4 + consumed (getBody f) (file.drop 4) ≤ file.length) := by
  cases hm : checkMagic (ztake 12 file) with
  | error e =>
    refine ⟨?_, fun f hf => by cases hf⟩
    rw [bytesFetched_nomagic c file e hm]; omega
  | ok f =>
    obtain ⟨hb, h4⟩ := hin f hm
    have hcons := consumed_le_of_inBounds (getBody f) _ hb
    simp only [List.length_drop] at hcons
    have hub := (bytesFetched_bounds c file f hm).2
    refine ⟨by omega, ?_⟩
    intro f' hf'
    cases hf'
    omega

/-! ### (5) trees that carry the repair of B10-3 / B10-5 / B10-6 (variant `int63`)

  `decodeWholeS true` models ncmpio_hdr_get_NC with patch C19-B10-5-int64-header-fields applied,
  `decodeWholeS false` the code as it stands.  checks/c19.py detects which one the tree follows from a
  witness replay (a dimension of length 2^63+3) and tells the driver. -/

/-- `false` is the code as it stands -/
theorem strict_false_is_current (file : Bytes) : decodeWholeS false file = decodeWhole file :=
  decodeWholeS_false file

/-- The repaired reader is conservative: what it accepts, the reader as it stands accepts with the same
    header and layout (it only adds NC_ENOTNC answers), hence an accepted header is self-consistent. -/
theorem strict_conservative (st : Bool) (file : Bytes) (h : Hdr) (info : Info)
    (hd : decodeWholeS st file = .ok (h, info)) : decodeWhole file = .ok (h, info) ∧ WF h info :=
  ⟨(decodeWholeS_ok st file h info hd).1, decode_ok_wf file h info (decodeWholeS_ok st file h info hd).1⟩

/-- … and its result does not depend on the read chunk size either -/
theorem strict_chunk_independent (st : Bool) (c : Nat) (file : Bytes) :
    decodeChunkedS st c file = decodeWholeS st file := by
  have hc := chunkOf_ge c
  unfold decodeChunkedS decodeWholeS
  simp only [fetch_init_eq, take12_ztake]
  cases checkMagic (ztake 12 file) with
  | error e => rfl
  | ok f =>
    rcases SimRes.elim (run_sim (by omega) (getBodyS st f) _ _ (inv_body c file))
      with ⟨e, hx, hy⟩ | ⟨a, w, s, hx, hy, _⟩ <;> simp only [hx, hy]

/-- What the repair buys: in a header the repaired reader accepts, numrecs, every dimension length
    and every begin are non-negative int64 values and begin + length fits int64 for every variable —
    the quantities whose signed arithmetic is undefined in the code as it stands (B10-5) and whose
    negative values are reported to the application (B10-6). -/
theorem strict_ok_fits63 (file : Bytes) (h : Hdr) (info : Info) (hd : decodeWholeS true file = .ok (h, info)) :
    h.numrecs ≤ X_INT64_MAX ∧ (∀ d ∈ h.dims, d.size ≤ X_INT64_MAX) ∧
    (∀ v ∈ h.vars, v.begin ≤ X_INT64_MAX ∧ v.begin + h.varLen v ≤ X_INT64_MAX) :=
  (decodeWholeS_ok true file h info hd).2 rfl

/-! ### (6) trees that carry the repair of F14 (variant `eof`), and all variants together

  `decodeWholeVar v` / `decodeChunkedVar v` model ncmpio_hdr_get_NC of a tree with the repairs named by
  `v : Variant` (`int63`: patch C19-B10-5-int64-header-fields, `eof`: patch
  C19-F14-header-read-beyond-eof).  checks/c19.py (and checks/c04.py) detect the variant of the tree
  from witness replays. -/

/-- no repair = the code as it stands -/
theorem variant_current (file : Bytes) : decodeWholeVar Variant.current file = decodeWhole file := by
  simp [decodeWholeVar_eq, Variant.current, decodeWholeS_false]

/-- Every variant is conservative: what it accepts, the reader as it stands accepts with the same
    header and layout; so every accepted header is self-consistent. -/
theorem variant_conservative (v : Variant) (file : Bytes) (h : Hdr) (info : Info)
    (hd : decodeWholeVar v file = .ok (h, info)) : decodeWhole file = .ok (h, info) ∧ WF h info := by
  rw [decodeWholeVar_eq] at hd
  split at hd
  · cases hd
  · exact strict_conservative v.int63 file h info hd

/-- The F14 repair changes nothing for a header that is completely in the file (no primitive read
    of the run crosses the end of the file) — e.g. every file the library itself writes. -/
theorem eof_agrees_on_complete (st : Bool) (file : Bytes) (f : Fmt) (hm : checkMagic (ztake 12 file) = .ok f)
    (hin : inBounds (getBodyS st f) (file.drop 4) = true) :
    decodeWholeVar { int63 := st, eof := true } file = decodeWholeVar { int63 := st, eof := false } file := by
  simp [decodeWholeVar_eq, complete, hm, hin]

/-- The result of every variant is independent of the read chunk size, for every byte string: also
    the end-of-file test, which the C computes from the window's own bookkeeping
    (file_size − (offset − (end − pos))), answers exactly as on the flat stream. -/
theorem variant_chunk_independent (v : Variant) (c : Nat) (file : Bytes) :
    decodeChunkedVar v c file = decodeWholeVar v file := by
  cases he : v.eof with
  | false =>
    rw [decodeWholeVar_eq, ← strict_chunk_independent v.int63 c]
    unfold decodeChunkedVar decodeChunkedS
    simp only [he, Bool.false_eq_true, false_and, if_false]
  | true =>
    unfold decodeChunkedVar decodeWholeVar
    have hc := chunkOf_ge c
    simp only [fetch_init_eq, take12_ztake, he, if_true]
    cases hm : checkMagic (ztake 12 file) with
    | error e => rfl
    | ok f =>
      simp only []
      rcases SimRes.elim (runWE_sim (by omega) (getBodyS v.int63 f) _ _ (invE_init file c (magic_length hm))).1
        with ⟨e, hx, hy⟩ | ⟨a, w, s, hx, hy, _⟩ <;> rw [hx, hy]

/-- WITH THE F14 REPAIR THE FULL WORK BOUND HOLDS (`decode_work_bound_Statement` for the repaired
    variant): for every read chunk size and EVERY byte string the decoder asks MPI-IO for at most one
    chunk more than the file holds. -/
theorem decode_work_bound_repaired (st : Bool) (c : Nat) (file : Bytes) :
    bytesFetchedV { int63 := st, eof := true } c file ≤ file.length + chunkOf c := by
  have hc := chunkOf_ge c
  unfold bytesFetchedV
  simp only [fetch_init_eq, take12_ztake, if_true]
  cases hm : checkMagic (ztake 12 file) with
  | error e => simp only []; omega
  | ok f =>
    simp only []
    obtain ⟨s', hi⟩ := (runWE_sim (by omega) (getBodyS st f) _ _ (invE_init file c (magic_length hm))).2
    have := hi.num
    omega

/-- the 40-byte F14 file: refused by the repaired reader (NC_ENOTNC), one chunk fetched -/
theorem witness40_repaired :
    decodeWholeVar { int63 := false, eof := true } witness40 = .error .enotnc := by rfl

/-! ### the driver's verdict -/

/-- What lean/Driver/C19.lean prints for a file (the guarded reader, which refuses to materialise a
    read far beyond the end of the file) is the model's verdict `openVerdict` whenever it is a verdict
    at all: same header and layout, or the same error. -/
theorem driver_verdict_sound (limit : Nat) (file : Bytes) :
    (∀ h info w, openGuarded limit file = .ok h info w → openVerdict file = .ok (h, info)) ∧
    (∀ e w, openGuarded limit file = .err e w → openVerdict file = .error e) := by
  unfold openGuarded openVerdict decodeWhole
  cases inqFileFormat file with
  | error e0 => simp
  | ok _ =>
    cases checkMagic (ztake 12 file) with
    | error e1 => simp
    | ok f =>
      dsimp only
      have hs := guardRun_ok file.length limit (getBody f) (file.drop 4) 4 false
      cases hg : guardRun file.length limit (getBody f) (file.drop 4) 4 false with
      | big b m w => simp
      | err e c w =>
        -- `GuardOk` of an answer that is not BIG is the unguarded run with that answer
        rw [hg] at hs
        have hr : run flatR (getBody f) (file.drop 4) = .error e := hs
        simp [hr]
      | ok h r c w =>
        rw [hg] at hs
        have hr : run flatR (getBody f) (file.drop 4) = .ok (h, r) := hs
        simp only [hr]
        cases postPass h <;> simp

/-- … and when it answers BIG instead, the unguarded decoder consumes at least up to there: more
    than `limit` bytes beyond the end of the file. -/
theorem driver_big_sound (total limit : Nat) (f : Fmt) (s : Bytes) (b : Bool) (m : Nat) (w : Bool)
    (h : guardRun total limit (getBody f) s 4 false = .big b m w) :
    total + limit < m ∧ m ≤ 4 + consumed (getBody f) s := by
  have := guardRun_ok total limit (getBody f) s 4 false
  rwa [h] at this

/-! ### non-vacuity -/

/-- a small valid file: CDF-1, no dimensions, one global attribute "a" = int {7}, no variables -/
def tiny : Bytes :=
  [0x43, 0x44, 0x46, 0x01,  0, 0, 0, 0,  0, 0, 0, 0,  0, 0, 0, 0,  0, 0, 0, 12,  0, 0, 0, 1,
   0, 0, 0, 1,  0x61, 0, 0, 0,  0, 0, 0, 4,  0, 0, 0, 1,  0, 0, 0, 7,  0, 0, 0, 0,  0, 0, 0, 0]

set_option maxRecDepth 100000 in
/-- the hypothesis of `decode_work_bound_partial` is met by `tiny` (and the run is not trivial:
    48 bytes are consumed) -/
example : checkMagic (ztake 12 tiny) = .ok .cdf1 ∧ inBounds (getBody .cdf1) (tiny.drop 4) = true ∧ 4 ≤ tiny.length ∧
    consumed (getBody .cdf1) (tiny.drop 4) = 48 := by
  refine ⟨by rfl, by rfl, by decide, by rfl⟩

set_option maxRecDepth 100000 in
/-- … and it is exactly what `witness40` violates -/
example : inBounds (getBody .cdf1) (witness40.drop 4) = false := by rfl

set_option maxRecDepth 100000 in
/-- `decode_ok_wf` is not vacuous: `tiny` is accepted, with one attribute of 4 value bytes -/
example : (decodeWhole tiny).toOption.map (fun r => (r.1.gatts.map (fun a => (a.nelems, a.xvalue.length)), r.2.xsz)) =
    some ([(1, 4)], 52) := by rfl

/-- a window state that presents a stream and is in the middle of its buffer (hypothesis of
    `window_safe_general` / `copy_loop_terminates`): after the first fetch and the 4 magic bytes -/
example : Inv tiny 36 { buf := ztake 36 tiny, pos := 4, off := 36 } (tiny.drop 4) :=
  inv_body 0 tiny

set_option maxRecDepth 100000 in
/-- non-vacuity: the repaired reader accepts `tiny` … -/
example : (decodeWholeS true tiny).toOption.map (fun r => r.2.xsz) = some 52 := by rfl

/-- … and refuses a dimension of length 2^63+3, which the reader as it stands accepts
    (CDF-5: numrecs 0, one dimension "x") -/
def negdim : Bytes :=
  [0x43, 0x44, 0x46, 0x05,  0, 0, 0, 0, 0, 0, 0, 0,  0, 0, 0, 10,  0, 0, 0, 0, 0, 0, 0, 1,
   0, 0, 0, 0, 0, 0, 0, 1,  0x78, 0, 0, 0,  0x80, 0, 0, 0, 0, 0, 0, 3,
   0, 0, 0, 0,  0, 0, 0, 0, 0, 0, 0, 0,  0, 0, 0, 0,  0, 0, 0, 0, 0, 0, 0, 0]

set_option maxRecDepth 100000 in
example : (decodeWhole negdim).toOption.map (fun r => r.1.dims.map (·.size)) = some [9223372036854775811] ∧
    (decodeWholeS true negdim).toOption.isNone = true := by
  refine ⟨by rfl, by rfl⟩

def obligations : List String := [
  "decode_total", "copy_loop_terminates", "window_safe_general", "window_safe",
  "decode_ok_wf", "decodeChunked_ok_wf", "open_ok_wf",
  "decode_work_bound_counterexample", "decode_work_unbounded", "decode_alloc_unbounded", "decode_work_bound_partial",
  "driver_verdict_sound", "driver_big_sound",
  "strict_false_is_current", "strict_conservative", "strict_chunk_independent", "strict_ok_fits63",
  "variant_current", "variant_conservative", "eof_agrees_on_complete", "variant_chunk_independent",
  "decode_work_bound_repaired", "witness40_repaired"
]
end PnVerif.Props.C19
