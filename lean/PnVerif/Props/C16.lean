import PnVerif.Model.Fill
import PnVerif.Lemmas.Redef
/-
  C16 — fill-value semantics: theorems about the model `PnVerif.Model.Fill`
  (share arithmetic, the plan of `fillerup_aggregate`, `fill_var_rec`, default fill bytes, fill-mode
  bookkeeping).  All statements are for every length, every process count ≥ 1, every rank, every
  record count and every list of new variables.
-/
namespace PnVerif.Props.C16
open PnVerif.Fill
open PnVerif.Redef (File rd writeAt rd_writeAt)

theorem share_start (len p r : Nat) : (share len p r).1 = (len / p) * r + min r (len % p) := by
  unfold share
  simp only []
  split
  · rw [Nat.min_eq_left (by omega)]
  · rw [Nat.min_eq_right (by omega)]

theorem share_count (len p r : Nat) : (share len p r).2 = len / p + (if r < len % p then 1 else 0) := by
  unfold share
  simp only []
  split <;> rfl

theorem share_consecutive (len p r : Nat) :
    (share len p r).1 + (share len p r).2 = (share len p (r + 1)).1 := by
  rw [share_start, share_count, share_start, Nat.mul_succ]
  split
  · rw [Nat.min_eq_left (by omega), Nat.min_eq_left (by omega)]; omega
  · rw [Nat.min_eq_right (by omega), Nat.min_eq_right (by omega)]; omega

theorem share_first (len p : Nat) : (share len p 0).1 = 0 := by
  rw [share_start]; simp

/-- the (virtual) share after the last process starts at `len`: nothing is left over -/
theorem share_last (len p : Nat) (hp : 1 ≤ p) : (share len p p).1 = len := by
  rw [share_start, Nat.min_eq_right (Nat.le_of_lt (Nat.mod_lt _ hp))]
  have := Nat.div_add_mod len p
  rw [Nat.mul_comm] at this
  exact this

theorem share_start_mono (len p a b : Nat) (h : a ≤ b) : (share len p a).1 ≤ (share len p b).1 := by
  rw [share_start, share_start]
  have h1 : len / p * a ≤ len / p * b := Nat.mul_le_mul_left _ h
  have h2 : min a (len % p) ≤ min b (len % p) := by omega
  omega

theorem share_within (len p r : Nat) (hp : 1 ≤ p) (hr : r < p) :
    (share len p r).1 + (share len p r).2 ≤ len := by
  rw [share_consecutive]
  have := share_start_mono len p (r + 1) p hr
  rw [share_last len p hp] at this
  exact this

/-- element `i` belongs to the share of process `r` -/
def InShare (len p r i : Nat) : Prop := (share len p r).1 ≤ i ∧ i < (share len p r).1 + (share len p r).2

private theorem exists_share (len p i : Nat) :
    ∀ k, i < (share len p k).1 → ∃ r, r < k ∧ InShare len p r i := by
  intro k
  induction k with
  | zero => intro h; rw [share_first] at h; omega
  | succ k ih =>
    intro h
    by_cases hk : i < (share len p k).1
    · obtain ⟨r, hr, hin⟩ := ih hk
      exact ⟨r, by omega, hin⟩
    · refine ⟨k, by omega, by omega, ?_⟩
      rw [share_consecutive]; exact h

/-- **shares_partition**: for every length and every process count ≥ 1 (also when `nprocs` does not
    divide `len`, also when `nprocs > len`), every element index below `len` lies in the share of
    exactly one process — every element is filled exactly once — and no share reaches beyond `len`. -/
theorem shares_partition (len p : Nat) (hp : 1 ≤ p) :
    (∀ i, i < len → ∃ r, r < p ∧ InShare len p r i ∧ ∀ r', r' < p → InShare len p r' i → r' = r) ∧
    (∀ r, r < p → (share len p r).1 + (share len p r).2 ≤ len) := by
  refine ⟨fun i hi => ?_, fun r hr => share_within len p r hp hr⟩
  obtain ⟨r, hr, hin⟩ := exists_share len p i p (by rw [share_last len p hp]; exact hi)
  refine ⟨r, hr, hin, fun r' _ hin' => ?_⟩
  -- two different shares cannot both contain i: starts are monotone and shares consecutive
  rcases Nat.lt_trichotomy r' r with hlt | heq | hgt
  · have := share_start_mono len p (r' + 1) r hlt
    have h2 := hin'.2; rw [share_consecutive] at h2
    have := hin.1; omega
  · exact heq
  · have := share_start_mono len p (r + 1) r' hgt
    have h2 := hin.2; rw [share_consecutive] at h2
    have := hin'.1; omega

/-- non-vacuity: 5 processes, 3 elements (more processes than elements): element 2 is in exactly one share -/
example : ∃ r, r < 5 ∧ InShare 3 5 r 2 ∧ ∀ r', r' < 5 → InShare 3 5 r' 2 → r' = r :=
  (shares_partition 3 5 (by decide)).1 2 (by decide)
example : share 7 3 0 = (0, 3) ∧ share 7 3 1 = (3, 2) ∧ share 7 3 2 = (5, 2) := by decide
example : share 2 5 0 = (0, 1) ∧ share 2 5 1 = (1, 1) ∧ share 2 5 2 = (2, 0) ∧ share 2 5 4 = (2, 0) := by decide

/-- bytes occupied by one instance (the whole fixed variable / one record) of `v` -/
def vbytes (v : FVar) : Nat := v.varLen * v.xsz


theorem segOf_within (p r : Nat) (hp : 1 ≤ p) (hr : r < p) (v : FVar) (base : Nat) :
    base ≤ (segOf p r v base).off ∧
    (segOf p r v base).off + (segOf p r v base).len ≤ base + vbytes v := by
  have h := Nat.mul_le_mul_right v.xsz (share_within v.varLen p r hp hr)
  rw [Nat.add_mul] at h
  simp only [segOf, vbytes]
  omega

theorem segOf_covers (p r : Nat) (v : FVar) (base e : Nat) (h : InShare v.varLen p r e) :
    (segOf p r v base).off ≤ base + e * v.xsz ∧
    base + (e + 1) * v.xsz ≤ (segOf p r v base).off + (segOf p r v base).len := by
  have h1 := Nat.mul_le_mul_right v.xsz h.1
  have h2 : (e + 1) * v.xsz ≤ _ := Nat.mul_le_mul_right v.xsz h.2
  simp only [segOf, Nat.add_mul] at h2 ⊢
  omega

/-- byte `b` lies in a slot of a fill-mode variable of `vars`: in the variable itself if it is
    fixed-size, in its part of one of the `nrecs` existing records if it is a record variable -/
def InFillSlot (recsize nrecs : Nat) (vars : List FVar) (b : Nat) : Prop :=
  ∃ v ∈ vars, v.noFill = false ∧
    ((v.isRec = false ∧ v.begin ≤ b ∧ b < v.begin + vbytes v) ∨
     (v.isRec = true ∧ ∃ recno, recno < nrecs ∧
        v.begin + recsize * recno ≤ b ∧ b < v.begin + recsize * recno + vbytes v))


/-! The two loops of `fillerup_aggregate` visit the fill-mode variables of one kind (`passVars`); the
    plan is one segment per visited instance (`slots`). -/

theorem filterMap_ite_none {α β : Type} (c : α → Bool) (g : α → β) (l : List α) :
    l.filterMap (fun a => if c a then none else some (g a)) = (l.filter fun a => !c a).map g := by
  induction l with
  | nil => rfl
  | cons a l ih => cases h : c a <;> simp [h, ih]

theorem passVars_false (vars : List FVar) :
    passVars false vars = vars.filter fun v => !(v.noFill || v.isRec) := by
  unfold passVars
  congr; funext v
  cases v.noFill <;> cases v.isRec <;> rfl

theorem passVars_true (vars : List FVar) :
    passVars true vars = vars.filter fun v => !(v.noFill || !v.isRec) := by
  unfold passVars
  congr; funext v
  cases v.noFill <;> cases v.isRec <;> rfl

theorem mem_passVars {b : Bool} {vars : List FVar} {v : FVar} :
    v ∈ passVars b vars ↔ v ∈ vars ∧ v.noFill = false ∧ v.isRec = b := by
  simp [passVars]

/-- the instances to be filled, in the order of the plan: (variable, file offset of the instance) -/
def slots (recsize nrecs : Nat) (vars : List FVar) : List (FVar × Nat) :=
  (passVars false vars).map (fun v => (v, v.begin)) ++
  (List.range nrecs).flatMap fun recno => (passVars true vars).map fun v => (v, v.begin + recsize * recno)

theorem fixedSegs_eq (p r : Nat) (vars : List FVar) :
    fixedSegs p r vars = (passVars false vars).map fun v => segOf p r v v.begin := by
  rw [passVars_false]
  exact filterMap_ite_none _ _ _

theorem recSegs_eq (p r recsize recno : Nat) (vars : List FVar) :
    recSegs p r recsize recno vars = (passVars true vars).map fun v => segOf p r v (v.begin + recsize * recno) := by
  rw [passVars_true]
  exact filterMap_ite_none _ _ _

theorem fixedSegsD_eq (p r : Nat) (elem : FVar → List UInt8) (vars : List FVar) :
    fixedSegsD p r elem vars = (passVars false vars).map fun v => segD p r elem v v.begin := by
  rw [passVars_false]
  exact filterMap_ite_none _ _ _

theorem recSegsD_eq (p r recsize recno : Nat) (elem : FVar → List UInt8) (vars : List FVar) :
    recSegsD p r recsize recno elem vars
      = (passVars true vars).map fun v => segD p r elem v (v.begin + recsize * recno) := by
  rw [passVars_true]
  exact filterMap_ite_none _ _ _

theorem fillPlan_eq (p r recsize nrecs : Nat) (vars : List FVar) :
    fillPlan p r recsize nrecs vars = (slots recsize nrecs vars).map fun s => segOf p r s.1 s.2 := by
  simp only [fillPlan, fixedSegs_eq, recSegs_eq, slots, List.map_append, List.map_flatMap, List.map_map]
  rfl

theorem fillPlanD_eq (p r recsize nrecs : Nat) (elem : FVar → List UInt8) (vars : List FVar) :
    fillPlanD p r recsize nrecs elem vars = (slots recsize nrecs vars).map fun s => segD p r elem s.1 s.2 := by
  simp only [fillPlanD, fixedSegsD_eq, recSegsD_eq, slots, List.map_append, List.map_flatMap, List.map_map]
  rfl

theorem mem_slots {recsize nrecs : Nat} {vars : List FVar} {v : FVar} {base : Nat} :
    (v, base) ∈ slots recsize nrecs vars ↔ v ∈ vars ∧ v.noFill = false ∧
      ((v.isRec = false ∧ base = v.begin) ∨
       (v.isRec = true ∧ ∃ recno, recno < nrecs ∧ base = v.begin + recsize * recno)) := by
  simp only [slots, List.mem_append, List.mem_map, List.mem_flatMap, List.mem_range, mem_passVars, Prod.mk.injEq]
  constructor
  · rintro (⟨w, ⟨h1, h2, h3⟩, rfl, rfl⟩ | ⟨recno, hr, w, ⟨h1, h2, h3⟩, rfl, rfl⟩)
    · exact ⟨h1, h2, Or.inl ⟨h3, rfl⟩⟩
    · exact ⟨h1, h2, Or.inr ⟨h3, recno, hr, rfl⟩⟩
  · rintro ⟨h1, h2, ⟨h3, rfl⟩ | ⟨h3, recno, hr, rfl⟩⟩
    · exact Or.inl ⟨v, ⟨h1, h2, h3⟩, rfl, rfl⟩
    · exact Or.inr ⟨recno, hr, v, ⟨h1, h2, h3⟩, rfl, rfl⟩

theorem inFillSlot_of_slot {recsize nrecs : Nat} {vars : List FVar} {v : FVar} {base b : Nat}
    (hs : (v, base) ∈ slots recsize nrecs vars) (h1 : base ≤ b) (h2 : b < base + vbytes v) :
    InFillSlot recsize nrecs vars b := by
  obtain ⟨hv, hnf, ⟨hnr, rfl⟩ | ⟨hir, recno, hrn, rfl⟩⟩ := mem_slots.mp hs
  · exact ⟨v, hv, hnf, Or.inl ⟨hnr, h1, h2⟩⟩
  · exact ⟨v, hv, hnf, Or.inr ⟨hir, recno, hrn, h1, h2⟩⟩

/-- **plan_targets_new_only**: every byte any process plans to write lies inside a NEW variable that
    is in fill mode — inside the variable for a fixed-size one, inside its slot of an EXISTING record
    for a record variable.  (`vars` are the variables added by the redefinition.) -/
theorem plan_targets_new_only (p r recsize nrecs : Nat) (hp : 1 ≤ p) (hr : r < p) (vars : List FVar)
    (s : Seg) (hs : s ∈ fillPlan p r recsize nrecs vars) (b : Nat) (hb : s.off ≤ b ∧ b < s.off + s.len) :
    InFillSlot recsize nrecs vars b := by
  rw [fillPlan_eq] at hs
  obtain ⟨⟨v, base⟩, hm, rfl⟩ := List.mem_map.mp hs
  have hw := segOf_within p r hp hr v base
  dsimp only at hb
  exact inFillSlot_of_slot hm (by omega) (by omega)

/-- **plan_avoids** (old data untouched / no-fill variables untouched): a byte that lies in no slot
    of a fill-mode new variable — e.g. any byte of a variable that existed before (disjoint from the
    new ones by the layout), any byte of a new variable in no-fill mode, any byte of a record that
    does not exist yet — is written by no process. -/
theorem plan_avoids (p recsize nrecs : Nat) (hp : 1 ≤ p) (vars : List FVar) (b : Nat)
    (hfree : ¬ InFillSlot recsize nrecs vars b) :
    ∀ r, r < p → ∀ s ∈ fillPlan p r recsize nrecs vars, ¬ (s.off ≤ b ∧ b < s.off + s.len) :=
  fun r hr s hs hb => hfree (plan_targets_new_only p r recsize nrecs hp hr vars s hs b hb)

/-- a no-fill variable contributes nothing, whatever the other variables are -/
theorem nofill_no_segment (p r recsize nrecs : Nat) (v : FVar) (hv : v.noFill = true) :
    fillPlan p r recsize nrecs [v] = [] := by
  unfold fillPlan fixedSegs recSegs
  simp [hv]

/-- **plan_covers**: every element of every fill-mode new variable (of every existing record, for a
    record variable) is inside the segment of some process: together with `shares_partition`
    (exactly one process) the whole variable is filled, by the processes collectively, exactly once. -/
theorem plan_covers (p recsize nrecs : Nat) (hp : 1 ≤ p) (vars : List FVar) (v : FVar) (hv : v ∈ vars)
    (hnf : v.noFill = false) (e : Nat) (he : e < v.varLen) :
    (v.isRec = false → ∃ r, r < p ∧ ∃ s ∈ fillPlan p r recsize nrecs vars,
        s.off ≤ v.begin + e * v.xsz ∧ v.begin + (e + 1) * v.xsz ≤ s.off + s.len) ∧
    (v.isRec = true → ∀ recno, recno < nrecs → ∃ r, r < p ∧ ∃ s ∈ fillPlan p r recsize nrecs vars,
        s.off ≤ v.begin + recsize * recno + e * v.xsz ∧
        v.begin + recsize * recno + (e + 1) * v.xsz ≤ s.off + s.len) := by
  obtain ⟨r, hr, hin, _⟩ := (shares_partition v.varLen p hp).1 e he
  have hmem : ∀ base, (v, base) ∈ slots recsize nrecs vars → segOf p r v base ∈ fillPlan p r recsize nrecs vars :=
    fun base hs => by rw [fillPlan_eq]; exact List.mem_map_of_mem hs
  constructor
  · intro hnr
    exact ⟨r, hr, _, hmem _ (mem_slots.mpr ⟨hv, hnf, Or.inl ⟨hnr, rfl⟩⟩), segOf_covers p r v _ e hin⟩
  · intro hir recno hrn
    exact ⟨r, hr, _, hmem _ (mem_slots.mpr ⟨hv, hnf, Or.inr ⟨hir, recno, hrn, rfl⟩⟩), segOf_covers p r v _ e hin⟩

/-- layout facts about the new variables (what NC_begins produces; evaluated by checks/c16.py on
    every real layout): in definition order the fixed-size ones follow each other below
    `recBase` (= begin_rec), the record ones follow each other inside one record. -/
structure NewLayoutOK (recBase recsize : Nat) (vars : List FVar) : Prop where
  ordered : vars.Pairwise fun v w => v.isRec = w.isRec → v.begin + vbytes v ≤ w.begin
  fixedBelow : ∀ v ∈ vars, v.isRec = false → v.begin + vbytes v ≤ recBase
  recInside : ∀ v ∈ vars, v.isRec = true → recBase ≤ v.begin ∧ v.begin + vbytes v ≤ recBase + recsize

/-- segment `a` ends before segment `b` starts -/
def Before (a b : Seg) : Prop := a.off + a.len ≤ b.off

theorem slots_pairwise (recBase recsize nrecs : Nat) (vars : List FVar) (h : NewLayoutOK recBase recsize vars) :
    (slots recsize nrecs vars).Pairwise fun a b => a.2 + vbytes a.1 ≤ b.2 := by
  have hord : ∀ b, (passVars b vars).Pairwise fun v w => v.begin + vbytes v ≤ w.begin := fun b =>
    (h.ordered.sublist List.filter_sublist).imp_of_mem fun hv hw hvw =>
      hvw ((mem_passVars.mp hv).2.2.trans (mem_passVars.mp hw).2.2.symm)
  have hrec : ∀ recno, ∀ a ∈ (passVars true vars).map (fun v => (v, v.begin + recsize * recno)),
      recBase + recsize * recno ≤ a.2 ∧ a.2 + vbytes a.1 ≤ recBase + recsize * recno + recsize := by
    intro recno a ha
    obtain ⟨v, hv, rfl⟩ := List.mem_map.mp ha
    have := h.recInside v (mem_passVars.mp hv).1 (mem_passVars.mp hv).2.2
    dsimp only
    omega
  unfold slots
  rw [List.pairwise_append, List.pairwise_flatMap]
  refine ⟨List.pairwise_map.mpr (hord false),
    ⟨fun recno _ => List.pairwise_map.mpr ((hord true).imp fun hvw => by dsimp only; omega), ?_⟩, ?_⟩
  · refine List.pairwise_lt_range.imp fun {i j} hij a ha b hb => ?_
    have := hrec i a ha
    have := hrec j b hb
    have := Nat.mul_le_mul_left recsize (Nat.succ_le_of_lt hij)
    rw [Nat.mul_succ] at this
    omega
  · intro a ha b hb
    obtain ⟨v, hv, rfl⟩ := List.mem_map.mp ha
    obtain ⟨recno, _, hb⟩ := List.mem_flatMap.mp hb
    have := h.fixedBelow v (mem_passVars.mp hv).1 (mem_passVars.mp hv).2.2
    have := hrec recno b hb
    dsimp only
    omega

/-- **plan_monotone**: the displacements handed to MPI_Type_create_hindexed are monotonically
    non-decreasing and the blocks do not overlap (each block ends before the next begins; strictly
    increasing offsets whenever the earlier block is non-empty) — for every rank of every process
    count, every number of existing records. -/
theorem plan_monotone (p r recBase recsize nrecs : Nat) (hp : 1 ≤ p) (hr : r < p) (vars : List FVar)
    (h : NewLayoutOK recBase recsize vars) :
    (fillPlan p r recsize nrecs vars).Pairwise Before := by
  rw [fillPlan_eq, List.pairwise_map]
  refine (slots_pairwise recBase recsize nrecs vars h).imp fun {a b} hab => ?_
  have ha := segOf_within p r hp hr a.1 a.2
  have hb := segOf_within p r hp hr b.1 b.2
  unfold Before
  omega

/-- a concrete layout meeting `NewLayoutOK`: a fixed int[5], a no-fill fixed short[3] and two record
    variables (double per record, 3 bytes per record) in a 12-byte record starting at 64 -/
example : NewLayoutOK 64 12 [⟨0, 4, 5, false, false⟩, ⟨20, 2, 3, false, true⟩,
                              ⟨64, 8, 1, true, false⟩, ⟨72, 1, 3, true, false⟩] where
  ordered := by simp [vbytes]
  fixedBelow := by simp [vbytes]
  recInside := by simp [vbytes]

example : fillPlan 2 1 12 2 [⟨0, 4, 5, false, false⟩, ⟨20, 2, 3, false, true⟩,
                              ⟨64, 8, 1, true, false⟩, ⟨72, 1, 3, true, false⟩]
    = [⟨12, 8⟩, ⟨72, 0⟩, ⟨74, 1⟩, ⟨84, 0⟩, ⟨86, 1⟩] := by decide

/-- **fillRec_covers**: `ncmpi_fill_var_rec` — the writes of the processes cover every element of the
    record (of the variable, for a fixed-size one) and stay inside it. -/
theorem fillRec_covers (p recsize recno : Nat) (hp : 1 ≤ p) (v : FVar) :
    (∀ e, e < v.varLen → ∃ r, r < p ∧
      (fillRecWrite p r recsize recno v).off ≤ v.begin + (if v.isRec then recsize * recno else 0) + e * v.xsz ∧
      v.begin + (if v.isRec then recsize * recno else 0) + (e + 1) * v.xsz
        ≤ (fillRecWrite p r recsize recno v).off + (fillRecWrite p r recsize recno v).len) ∧
    (∀ r, r < p →
      v.begin + (if v.isRec then recsize * recno else 0) ≤ (fillRecWrite p r recsize recno v).off ∧
      (fillRecWrite p r recsize recno v).off + (fillRecWrite p r recsize recno v).len
        ≤ v.begin + (if v.isRec then recsize * recno else 0) + vbytes v) := by
  refine ⟨fun e he => ?_, fun r hr => segOf_within p r hp hr v _⟩
  obtain ⟨r, hr, hin, _⟩ := (shares_partition v.varLen p hp).1 e he
  exact ⟨r, hr, segOf_covers p r v _ e hin⟩

/-- numrecs after fill_var_rec: never decreases, and covers the filled record of every process -/
theorem fillRecNumrecs_ge (numrecs : Nat) (recnos : List Nat) :
    numrecs ≤ fillRecNumrecs numrecs recnos ∧ ∀ r ∈ recnos, r + 1 ≤ fillRecNumrecs numrecs recnos := by
  unfold fillRecNumrecs
  induction recnos generalizing numrecs with
  | nil => exact ⟨Nat.le_refl _, fun r hr => by cases hr⟩
  | cons x xs ih =>
    simp only [List.foldl_cons]
    obtain ⟨i1, i2⟩ := ih (max numrecs (x + 1))
    refine ⟨by omega, fun r hr => ?_⟩
    cases hr with
    | head => omega
    | tail _ hm => exact i2 r hm

/-- **fill_bytes_default**: the default fill bytes are the big-endian encodings of the documented
    NC_FILL_* values: BYTE -127, CHAR 0, SHORT -32767, INT -2147483647, UBYTE 255, USHORT 65535,
    UINT 4294967295, INT64 -9223372036854775806, UINT64 18446744073709551614; FLOAT and DOUBLE both
    encode exactly 15·2^119 = 9.969209968386869…e36, which is the float/double nearest to the
    documented decimal 9.9692099683868690e+36 (distance < half an ulp: 2^98 for float, 2^69 for double). -/
theorem fill_bytes_default :
    (fillBytes 1).map beSigned = some (-127) ∧
    (fillBytes 2).map beVal = some 0 ∧
    (fillBytes 3).map beSigned = some (-32767) ∧
    (fillBytes 4).map beSigned = some (-2147483647) ∧
    (fillBytes 7).map beVal = some 255 ∧
    (fillBytes 8).map beVal = some 65535 ∧
    (fillBytes 9).map beVal = some 4294967295 ∧
    (fillBytes 10).map beSigned = some (-9223372036854775806) ∧
    (fillBytes 11).map beVal = some 18446744073709551614 ∧
    (fillBytes 5).map (fun b => ieeeNormal 8 23 (beVal b)) = some (15 * 2 ^ 20, 99) ∧
    (fillBytes 6).map (fun b => ieeeNormal 11 52 (beVal b)) = some (15 * 2 ^ 49, 70) ∧
    (15 * 2 ^ 20) * 2 ^ 99 = 15 * 2 ^ 119 ∧ (15 * 2 ^ 49) * 2 ^ 70 = 15 * 2 ^ 119 ∧
    15 * 2 ^ 119 - 99692099683868690 * 10 ^ 20 < 2 ^ 69 ∧ 99692099683868690 * 10 ^ 20 ≤ 15 * 2 ^ 119 ∧
    (∀ t, fillBytes t = none ↔ ¬ (1 ≤ t ∧ t ≤ 11)) := by
  refine ⟨by decide, by decide, by decide, by decide, by decide, by decide, by decide, by decide, by decide,
          by decide, by decide, by decide, by decide, by decide, by decide, ?_⟩
  intro t
  by_cases h : t ≤ 11
  · revert t; decide
  · obtain ⟨n, rfl⟩ : ∃ n, t = n + 12 := ⟨t - 12, by omega⟩
    exact ⟨fun _ => by omega, fun _ => rfl⟩

/-- the fill buffer of `n` elements has `n · |elem|` bytes and consists of copies of `elem` -/
theorem fillBuf_length (elem : List UInt8) (n : Nat) : (fillBuf elem n).length = n * elem.length := by
  unfold fillBuf
  induction n with
  | zero => simp
  | succ n ih => rw [List.replicate_succ, List.flatten_cons, List.length_append, ih, Nat.succ_mul]; omega


theorem segD_fst (p r : Nat) (elem : FVar → List UInt8) (v : FVar) (base : Nat) :
    (segD p r elem v base).1 = segOf p r v base := rfl

theorem segD_length (p r : Nat) (elem : FVar → List UInt8) (helem : ∀ v, (elem v).length = v.xsz) (v : FVar)
    (base : Nat) : (segD p r elem v base).2.length = (segOf p r v base).len := by
  simp only [segD, segOf, fillBuf_length, helem]

/-- the `D` plan is the plan of the model (`fillPlan`) paired with the buffer of the model (`planBuf`) -/
theorem fillPlanD_fst (p r recsize nrecs : Nat) (elem : FVar → List UInt8) (vars : List FVar) :
    (fillPlanD p r recsize nrecs elem vars).map (·.1) = fillPlan p r recsize nrecs vars := by
  rw [fillPlanD_eq, fillPlan_eq, List.map_map]
  rfl

/-- … and its data, concatenated in plan order, is the write buffer of the model (`planBuf`) -/
theorem fillPlanD_snd (p r recsize nrecs : Nat) (elem : FVar → List UInt8) (vars : List FVar) :
    (fillPlanD p r recsize nrecs elem vars).flatMap (·.2) = planBuf p r nrecs elem vars := by
  simp only [fillPlanD_eq, slots, planBuf, List.flatMap_map, List.flatMap_append, List.flatMap_assoc]
  rfl

/-- the write buffer is exactly as long as the file view selects -/
theorem planBuf_length (p r recsize nrecs : Nat) (elem : FVar → List UInt8) (vars : List FVar)
    (h : ∀ v, (elem v).length = v.xsz) :
    (planBuf p r nrecs elem vars).length = ((fillPlan p r recsize nrecs vars).map (·.len)).sum := by
  rw [← fillPlanD_snd p r recsize, ← fillPlanD_fst p r recsize nrecs elem, List.length_flatMap, List.map_map]
  congr 1
  refine List.map_congr_left fun w hw => ?_
  rw [fillPlanD_eq] at hw
  obtain ⟨s, _, rfl⟩ := List.mem_map.mp hw
  exact segD_length p r elem h s.1 s.2

/-- write `w` covers byte `b` -/
def Covers (w : Seg × List UInt8) (b : Nat) : Prop := w.1.off ≤ b ∧ b < w.1.off + w.2.length

theorem writeSegs_agree (x : UInt8) (b : Nat) (ws : List (Seg × List UInt8)) (f : File)
    (hval : ∀ w ∈ ws, Covers w b → w.2.getD (b - w.1.off) 0 = x) (h : rd f b = x ∨ ∃ w ∈ ws, Covers w b) :
    rd (writeSegs f ws) b = x :=
  PnVerif.Redef.rd_foldl_writeAt_agree (fun w : Seg × List UInt8 => w.1.off) (fun w => w.2) x b ws f hval h

theorem writeSegs_frame (b : Nat) (ws : List (Seg × List UInt8)) (f : File) (h : ∀ w ∈ ws, ¬ Covers w b) :
    rd (writeSegs f ws) b = rd f b :=
  PnVerif.Redef.rd_foldl_writeAt_frame (fun w : Seg × List UInt8 => w.1.off) (fun w => w.2) b ws f h

theorem fillBuf_getD (e : List UInt8) (n i : Nat) (hi : i < n * e.length) :
    (fillBuf e n).getD i 0 = e.getD (i % e.length) 0 := by
  induction n generalizing i with
  | zero => simp at hi
  | succ n ih =>
    have hs : fillBuf e (n + 1) = e ++ fillBuf e n := by
      unfold fillBuf; rw [List.replicate_succ, List.flatten_cons]
    rw [hs]
    simp only [List.getD_eq_getElem?_getD]
    by_cases h : i < e.length
    · rw [List.getElem?_append_left h, Nat.mod_eq_of_lt h]
    · have h' : e.length ≤ i := by omega
      rw [List.getElem?_append_right h']
      have := ih (i - e.length) (by rw [Nat.succ_mul] at hi; omega)
      simp only [List.getD_eq_getElem?_getD] at this
      rw [this, ← Nat.mod_eq_sub_mod h']

theorem segD_covers (p r : Nat) (hp : 1 ≤ p) (hr : r < p) (elem : FVar → List UInt8)
    (helem : ∀ v, (elem v).length = v.xsz) (v : FVar) (base b : Nat) (hc : Covers (segD p r elem v base) b) :
    (base ≤ b ∧ b < base + vbytes v) ∧
    (segD p r elem v base).2.getD (b - (segD p r elem v base).1.off) 0 = (elem v).getD ((b - base) % v.xsz) 0 := by
  have hw := segOf_within p r hp hr v base
  simp only [Covers, segD_fst, segD_length p r elem helem] at hc
  refine ⟨by omega, ?_⟩
  simp only [segD, segOf] at hc ⊢
  rw [fillBuf_getD _ _ _ (by rw [helem]; omega), helem]
  congr 1
  rw [show b - base = (share v.varLen p r).1 * v.xsz + (b - (base + (share v.varLen p r).1 * v.xsz)) by omega,
    Nat.mul_comm, Nat.mul_add_mod]

theorem pairwise_trichotomy {α : Type} {R : α → α → Prop} {l : List α} (h : l.Pairwise R) :
    ∀ a ∈ l, ∀ b ∈ l, a = b ∨ R a b ∨ R b a := fun _ ha _ hb =>
  List.Pairwise.forall_of_forall_of_flip (R := fun x y => x = y ∨ R x y ∨ R y x) (fun _ _ => .inl rfl)
    (h.imp fun r => .inr (.inl r)) (h.imp fun r => .inr (.inr r)) ha hb

theorem slot_unique {recBase recsize nrecs : Nat} {vars : List FVar} (h : NewLayoutOK recBase recsize vars)
    {a b : FVar × Nat} (ha : a ∈ slots recsize nrecs vars) (hb : b ∈ slots recsize nrecs vars) (x : Nat)
    (hxa : a.2 ≤ x ∧ x < a.2 + vbytes a.1) (hxb : b.2 ≤ x ∧ x < b.2 + vbytes b.1) : a = b := by
  rcases pairwise_trichotomy (slots_pairwise recBase recsize nrecs vars h) a ha b hb with e | o | o
  · exact e
  · omega
  · omega

/-- any write that lands on the byte belongs to the same instance (`slot_unique`), so it carries the same
    fill byte; and the rank whose share holds `e` does write it -/
theorem fillAll_slot (p recBase recsize nrecs : Nat) (hp : 1 ≤ p) (elem : FVar → List UInt8)
    (helem : ∀ v, (elem v).length = v.xsz) (vars : List FVar) (h : NewLayoutOK recBase recsize vars) (f : File)
    (v : FVar) (base : Nat) (hs : (v, base) ∈ slots recsize nrecs vars) (e k : Nat) (he : e < v.varLen) (hk : k < v.xsz) :
    rd (fillAll p recsize nrecs elem vars f) (base + e * v.xsz + k) = (elem v).getD k 0 := by
  obtain ⟨r, hr, hsh, _⟩ := (shares_partition v.varLen p hp).1 e he
  have hcov := segOf_covers p r v base e hsh
  rw [Nat.succ_mul] at hcov
  have hw := segOf_within p r hp hr v base
  have hin : base ≤ base + e * v.xsz + k ∧ base + e * v.xsz + k < base + vbytes v := ⟨by omega, by omega⟩
  unfold fillAll
  apply writeSegs_agree
  · intro w hw hc
    obtain ⟨r', hr', hwr⟩ := List.mem_flatMap.mp hw
    rw [fillPlanD_eq] at hwr
    obtain ⟨s, hs', rfl⟩ := List.mem_map.mp hwr
    obtain ⟨hin', hval⟩ := segD_covers p r' hp (List.mem_range.mp hr') elem helem s.1 s.2 _ hc
    cases slot_unique h hs hs' _ hin hin'
    rw [hval]
    congr 1
    rw [show base + e * v.xsz + k - base = v.xsz * e + k by rw [Nat.mul_comm]; omega, Nat.mul_add_mod,
      Nat.mod_eq_of_lt hk]
  · refine Or.inr ⟨segD p r elem v base, List.mem_flatMap.mpr ⟨r, List.mem_range.mpr hr, ?_⟩, ?_⟩
    · rw [fillPlanD_eq]
      exact List.mem_map_of_mem hs
    · simp only [Covers, segD_fst, segD_length p r elem helem]
      omega

/-- **fill_effect** (unwritten_reads_fill / old_data_untouched / nofill_untouched at byte level):
    after the aggregated fill of all processes — for every process count, every number of existing
    records, every list of new variables laid out as NC_begins does —
    (1) every element of every new fixed-size variable in fill mode holds the variable's fill element,
    (2) so does every element of every new fill-mode record variable in every EXISTING record,
    (3) every other byte of the file (older variables, no-fill variables, the header, records that
        do not exist yet) is unchanged. -/
theorem fill_effect (p recBase recsize nrecs : Nat) (hp : 1 ≤ p) (elem : FVar → List UInt8)
    (helem : ∀ v, (elem v).length = v.xsz) (vars : List FVar) (h : NewLayoutOK recBase recsize vars) (f : File) :
    (∀ v ∈ vars, v.noFill = false → v.isRec = false → ∀ e k, e < v.varLen → k < v.xsz →
      rd (fillAll p recsize nrecs elem vars f) (v.begin + e * v.xsz + k) = (elem v).getD k 0) ∧
    (∀ v ∈ vars, v.noFill = false → v.isRec = true → ∀ recno e k, recno < nrecs → e < v.varLen → k < v.xsz →
      rd (fillAll p recsize nrecs elem vars f) (v.begin + recsize * recno + e * v.xsz + k) = (elem v).getD k 0) ∧
    (∀ b, ¬ InFillSlot recsize nrecs vars b → rd (fillAll p recsize nrecs elem vars f) b = rd f b) := by
  refine ⟨fun v hv hnf hnr e k he hk => ?_, fun v hv hnf hir recno e k hrn he hk => ?_, fun b hb => ?_⟩
  · exact fillAll_slot p recBase recsize nrecs hp elem helem vars h f v v.begin
      (mem_slots.mpr ⟨hv, hnf, Or.inl ⟨hnr, rfl⟩⟩) e k he hk
  · exact fillAll_slot p recBase recsize nrecs hp elem helem vars h f v _
      (mem_slots.mpr ⟨hv, hnf, Or.inr ⟨hir, recno, hrn, rfl⟩⟩) e k he hk
  · unfold fillAll
    refine writeSegs_frame b _ f fun w hw hc => hb ?_
    obtain ⟨r, hr, hwr⟩ := List.mem_flatMap.mp hw
    rw [fillPlanD_eq] at hwr
    obtain ⟨s, hs, rfl⟩ := List.mem_map.mp hwr
    obtain ⟨hin, _⟩ := segD_covers p r hp (List.mem_range.mp hr) elem helem s.1 s.2 _ hc
    exact inFillSlot_of_slot hs hin.1 hin.2

/-- **fillvalue_rule_path_independent**: whether an attribute may become a variable's `_FillValue` (and the error
    code if not) does not depend on the API that delivers it — put_att (flexible or typed), def_var_fill,
    copy_att between two files (same or different variable id), copy_att between two variables of one file,
    rename_att — the only exemption is copying an attribute onto itself. -/
theorem fillvalue_rule_path_independent (p q : FvPath) (hp : p ≠ .copyAtt true true) (hq : q ≠ .copyAtt true true)
    (varType attType nelems : Nat) (isOld : Bool) :
    fvAccept p varType attType nelems isOld = fvAccept q varType attType nelems isOld := by
  have h : ∀ r : FvPath, r ≠ .copyAtt true true → fvAccept r varType attType nelems isOld = fvRule varType attType nelems isOld := by
    intro r hr
    cases r with
    | copyAtt a b => cases a <;> cases b <;> first | rfl | exact absurd rfl hr
    | _ => rfl
  rw [h p hp, h q hq]

/-- an accepted `_FillValue` has the variable's type, one element, and a variable defined in this define mode -/
theorem fvRule_accept_iff (varType attType nelems : Nat) (isOld : Bool) :
    fvRule varType attType nelems isOld = 0 ↔ attType = varType ∧ nelems = 1 ∧ isOld = false := by
  unfold fvRule
  by_cases h1 : attType = varType <;> by_cases h2 : nelems = 1 <;> cases isOld <;> simp [h1, h2]

example : fvAccept (.copyAtt false true) 4 4 1 true = -122 ∧ fvAccept (.copyAtt true false) 3 4 1 false = -45 ∧
          fvAccept .renameAtt 4 4 2 false = -36 ∧ fvAccept .putAtt 4 4 1 false = 0 := by decide

/-- after `ncmpi_set_fill(mode)` every variable defined so far is in that mode -/
theorem setFill_all (s : FState) (m : Bool) : ∀ b ∈ (fstep s (.setFill m)).noFill, b = !m := by
  intro b hb
  simp only [fstep, List.mem_map] at hb
  obtain ⟨_, _, h⟩ := hb
  exact h.symm

/-- a variable defined later inherits the dataset mode; existing variables keep theirs -/
theorem defVar_inherits (s : FState) :
    (fstep s .defVar).noFill = s.noFill ++ [!s.dsFill] ∧ (fstep s .defVar).dsFill = s.dsFill := ⟨rfl, rfl⟩

/-- `ncmpi_def_var_fill` overrides the mode of exactly that variable -/
theorem varFill_only (s : FState) (v : Nat) (nf : Bool) (hv : v < s.noFill.length) :
    (fstep s (.varFill v nf)).noFill[v]? = some nf ∧
    ∀ w, w ≠ v → (fstep s (.varFill v nf)).noFill[w]? = s.noFill[w]? := by
  simp only [fstep]
  constructor
  · simp [hv]
  · intro w hw
    rw [List.getElem?_set_ne (Ne.symm hw)]

/-- dataset fill mode set before any definition: every variable defined afterwards (with no
    per-variable override) is in fill mode — for every number of definitions -/
theorem setFill_then_defs (n : Nat) :
    (frun FState.init (.setFill true :: List.replicate n .defVar)).noFill = List.replicate n false := by
  have h : ∀ n (l : List Bool), (frun ⟨true, l⟩ (List.replicate n FOp.defVar)).noFill = l ++ List.replicate n false := by
    intro n
    induction n with
    | zero => intro l; simp [frun]
    | succ n ih =>
      intro l
      rw [List.replicate_succ]
      show (frun (fstep ⟨true, l⟩ .defVar) (List.replicate n .defVar)).noFill = _
      simp only [fstep]
      rw [ih]
      simp [List.replicate_succ]
  have := h n []
  simpa [frun, fstep, FState.init] using this

def obligations : List String := [
  "share_consecutive", "share_last", "share_within", "shares_partition",
  "segOf_within", "plan_targets_new_only", "plan_avoids", "nofill_no_segment", "plan_covers", "plan_monotone",
  "fillPlanD_fst", "fillPlanD_snd", "fill_effect",
  "fillRec_covers", "fillRecNumrecs_ge", "fill_bytes_default", "fillBuf_length", "planBuf_length",
  "fillvalue_rule_path_independent", "fvRule_accept_iff",
  "setFill_all", "defVar_inherits", "varFill_only", "setFill_then_defs"
]
end PnVerif.Props.C16
