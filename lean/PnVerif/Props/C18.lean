import PnVerif.Lemmas.SizeLemmas
import PnVerif.Lemmas.ScsLemmas
/-
  C18 — format size limits are enforced exactly, and large offsets are addressed correctly.

  Model: Model/SizeLimits.lean (literal transcription of ncmpi_def_dim's size test,
  ncmpio_NC_check_vlen, ncmpio_NC_var_shape64, ncmpio_NC_check_vlens, NC_begins for a new file,
  the vsize saturation of hdr_put_NC_var).  Spec: Spec/SizeRules.lean (format document).
  Tie to the source: checks/c18.py runs the real library through its public API on the same
  definitions as the Lean driver (Driver/C18.lean) and writes/reads single elements of sparse
  files on both sides of 2^31 and 2^32 bytes.

  Guards used below, facts about every reachable call:
    * fmt ∈ {1, 2, 5}
    * `WF v` : element size 1..8, every fixed dimension ≥ 1 (length 0 = NC_UNLIMITED is only
      legal as the record dimension, NC_EUNLIMPOS otherwise)
    * `l.beginVar % 4 = 0` : the header extent is D_RNDUP(.., h_align) and ncmpio__enddef rounds
      h_align up to a multiple of 4
-/
namespace PnVerif.Props.C18
open PnVerif.SizeLimits PnVerif.Spec.SizeRules

/-- `ncmpi_def_dim` accepts a length exactly when the format can store it; otherwise NC_EDIMSIZE -/
theorem defdim_iff (fmt : Nat) (size : Int) (hf : fmt = 1 ∨ fmt = 2 ∨ fmt = 5) :
    (defDim fmt size = NC_NOERR ↔ DimOK fmt size) ∧
    (defDim fmt size = NC_NOERR ∨ defDim fmt size = NC_EDIMSIZE) := by
  -- each format has one test `if bad then NC_EDIMSIZE else NC_NOERR`, and `¬ bad` is `DimOK`
  have key : ∀ (bad : Prop) [Decidable bad],
      ((if bad then NC_EDIMSIZE else NC_NOERR) = NC_NOERR ↔ ¬ bad) ∧
      ((if bad then NC_EDIMSIZE else NC_NOERR) = NC_NOERR ∨
        (if bad then NC_EDIMSIZE else NC_NOERR) = NC_EDIMSIZE) :=
    fun bad _ => by by_cases h : bad <;> simp [h, NC_EDIMSIZE, NC_NOERR]
  unfold defDim DimOK NC_MAX_INT
  rcases hf with rfl | rfl | rfl <;> simp only [Nat.reduceEqDiff, if_false, if_true] <;>
    exact ⟨(key _).1.trans (by omega), (key _).2⟩

/-- the division test of ncmpio_NC_check_vlen decides `bytes ≤ vlen_max` exactly … -/
theorem checkVlen_exact (v : Var) (m : Nat) (hw : WF v) (hm : 8 ≤ m) :
    checkVlen v m = true ↔ vbytes v ≤ m := checkVlen_iff v m hw hm

/-- … and never computes a product above vlen_max (so, with vlen_max < 2^63, never overflows
    MPI_Offset): part 1 of `no_overflow` -/
theorem checkVlen_no_overflow (v : Var) (m : Nat) (hw : WF v) :
    ∀ x ∈ vlenProducts m v.xsz v.dims, x ≤ m := vlenProducts_bounded m v.dims v.xsz hw.1 hw.2.2

/-- `ncmpi_def_var` (ncmpio_NC_var_shape64) accepts exactly the variables whose padded size fits
    a signed 64-bit field, rejects the others with NC_EVARSIZE, and the `len` it stores is the
    padded size, below 2^63: part 2 of `no_overflow` -/
theorem defvar_iff (v : Var) (hw : WF v) :
    ((defVar v).1 = NC_NOERR ↔ vsize v ≤ 9223372036854775804) ∧
    ((defVar v).1 = NC_NOERR ∨ (defVar v).1 = NC_EVARSIZE) ∧
    ((defVar v).1 = NC_NOERR → (defVar v).2 = vsize v ∧ (defVar v).2 < 9223372036854775808) := by
  have h : checkVlen v 9223372036854775804 = true ↔ vsize v ≤ 9223372036854775804 :=
    (checkVlen_iff v _ hw (by decide)).trans (pad4_le_iff _ _ (by decide)).symm
  unfold defVar
  rw [show X_INT64_MAX - 3 = 9223372036854775804 from rfl]
  cases hc : checkVlen v 9223372036854775804
  · have hv : ¬ vsize v ≤ 9223372036854775804 := fun hle => by rw [h.mpr hle] at hc; cases hc
    simp [hv, NC_EVARSIZE, NC_NOERR]
  · have hv := h.mp hc
    simp only [Bool.not_true, Bool.false_eq_true, if_false, true_iff, true_or, true_and, forall_const]
    exact ⟨hv, varLen_eq v, by rw [varLen_eq]; omega⟩

/-- **ncmpio_NC_check_vlens accepts exactly the definitions that satisfy the format's size rules**
    (at most the last fixed-size variable oversized and then no record variable; at most the last
    record variable oversized; nothing oversized in CDF-5) and otherwise returns NC_EVARSIZE -/
theorem check_vlens_iff_rules (fmt : Nat) (vars : List Var) (hf : fmt = 1 ∨ fmt = 2 ∨ fmt = 5)
    (hw : ∀ v ∈ vars, WF v) :
    (checkVlens fmt vars = NC_NOERR ↔ SizeRules fmt vars) ∧
    (checkVlens fmt vars = NC_NOERR ∨ checkVlens fmt vars = NC_EVARSIZE) :=
  checkVlens_iff fmt vars hf hw

/-- **Leaving define mode succeeds exactly when the size rules and (CDF-1) the 2 GiB rule for
    variable offsets hold; otherwise the error is NC_EVARSIZE.** -/
theorem accept_iff_rules (fmt : Nat) (l : Lay) (vars : List Var) (hf : fmt = 1 ∨ fmt = 2 ∨ fmt = 5)
    (hw : ∀ v ∈ vars, WF v) (h4 : l.beginVar % 4 = 0) :
    ((enddef fmt l vars).1 = NC_NOERR ↔ SizeRules fmt vars ∧ BeginRule fmt l vars) ∧
    ((enddef fmt l vars).1 = NC_NOERR ∨ (enddef fmt l vars).1 = NC_EVARSIZE) := by
  unfold enddef
  rw [checkVlens_eq fmt vars hf hw, ← ncBegins_isSome_iff fmt l vars h4]
  by_cases hs : SizeRules fmt vars
  · cases ncBegins fmt l vars <;> simp [hs, NC_EVARSIZE, NC_NOERR]
  · simp [hs, NC_EVARSIZE, NC_NOERR]

/-- for an accepted definition the begins NC_begins assigns are the specified ones: fixed
    variables one after the other from the header extent, record variables one after the other
    from the (aligned) record section -/
theorem begins_spec (fmt : Nat) (l : Lay) (vars : List Var) (h4 : l.beginVar % 4 = 0) (b : Begins)
    (h : (enddef fmt l vars).2 = some b) :
    b.fixed = (List.range (fixedVars vars).length).map (fixedBegin l vars) ∧
    b.recs = (List.range (recVars vars).length).map (recBegin l vars) ∧
    b.beginRec = recSection l vars := by
  unfold enddef at h
  by_cases hc : checkVlens fmt vars = NC_NOERR
  · simp only [hc, ne_eq, not_true_eq_false, if_false] at h
    cases hn : ncBegins fmt l vars with
    | none => simp [hn] at h
    | some b' =>
      simp only [hn, Option.some.injEq] at h
      subst h
      exact ncBegins_some fmt l vars h4 b' hn
  · simp [hc] at h

/-- CDF-1: every begin of an accepted definition fits the signed 32-bit field (so the
    `NC_EINTOVERFLOW` test of hdr_put_NC_var can never fire) -/
theorem cdf1_begins_fit (l : Lay) (vars : List Var) (hw : ∀ v ∈ vars, WF v) (h4 : l.beginVar % 4 = 0)
    (hacc : (enddef 1 l vars).1 = NC_NOERR) :
    (∀ k, k < (fixedVars vars).length → fixedBegin l vars k < 2147483648) ∧
    (∀ k, k < (recVars vars).length → recBegin l vars k < 2147483648) :=
  ((accept_iff_rules 1 l vars (Or.inl rfl) hw h4).1.mp hacc).2 rfl

/-! ### no overflow — the full claim is FALSE of the code for CDF-5 -/

/-- end of the first record = the largest offset NC_begins computes -/
def fileEnd (l : Lay) (vars : List Var) : Nat := recSection l vars + sumLens (recVars vars)

/-- the claim as it should hold: for every definition the library accepts (every def_var and the
    enddef succeed), every offset NC_begins computes is below 2^63, i.e. representable in
    MPI_Offset / in the non-negative 64-bit `begin` field of the file.  The hypotheses on `l` only
    narrow the claim; it is refuted even so. -/
def no_overflow_Statement : Prop :=
  ∀ (fmt : Nat) (l : Lay) (vars : List Var), (fmt = 1 ∨ fmt = 2 ∨ fmt = 5) → (∀ v ∈ vars, WF v) →
    l.beginVar % 4 = 0 → l.beginVar < 2147483648 → l.vMinfree = 0 → l.rAlign = 4 →
    (∀ v ∈ vars, (defVar v).1 = NC_NOERR) → (enddef fmt l vars).1 = NC_NOERR →
    fileEnd l vars < 9223372036854775808

/-- NEW finding: CDF-5, header extent 512, three NC_BYTE variables over one dimension of 2^62 -/
def ovfVars : List Var :=
  [{ xsz := 1, isRec := false, dims := [4611686018427387904] },
   { xsz := 1, isRec := false, dims := [4611686018427387904] },
   { xsz := 1, isRec := false, dims := [4611686018427387904] }]
def ovfLay : Lay := { beginVar := 512, vMinfree := 0, rAlign := 4 }

theorem ovf_accepted : (enddef 5 ovfLay ovfVars).1 = NC_NOERR := by decide
theorem ovf_third_begin : fixedBegin ovfLay ovfVars 2 = 9223372036854776320 := by decide

theorem no_overflow_counterexample : ¬ no_overflow_Statement := by
  intro h
  have := h 5 ovfLay ovfVars (by decide) (by decide) (by decide) (by decide) rfl rfl (by decide) ovf_accepted
  revert this
  decide

/-- **what does hold**: every begin and every end of a variable is at most `fileEnd`, so the single
    extra hypothesis "the data section of one record ends below 2^63" bounds every quantity
    NC_begins computes.  Together with `checkVlen_no_overflow` and `defvar_iff` this is the
    no-overflow claim; what is missing in the code is exactly a test of `fileEnd` (the sum of the
    variable sizes) against NC_MAX_INT64 in NC_begins. -/
theorem no_overflow_partial (l : Lay) (vars : List Var)
    (hend : fileEnd l vars < 9223372036854775808) :
    (∀ k, l.beginVar + sumLens ((fixedVars vars).take k) < 9223372036854775808) ∧
    (∀ k, recSection l vars + sumLens ((recVars vars).take k) < 9223372036854775808) ∧
    recSection l vars < 9223372036854775808 := by
  unfold fileEnd at hend
  have h1 := le_recSection l vars
  refine ⟨fun k => ?_, fun k => ?_, by omega⟩
  · have := sumLens_take_le (fixedVars vars) k; omega
  · have := sumLens_take_le (recVars vars) k; omega

/-! ### the REPAIRED NC_begins (patch C18-begins-overflow.diff) satisfies the full claim -/

/-- the additional rule the repaired code enforces: the data section (of one record) ends at an
    offset representable in MPI_Offset -/
def EndRule (l : Lay) (vars : List Var) : Prop := fileEnd l vars ≤ 9223372036854775807

theorem enddefG_eq (fmt : Nat) (l : Lay) (vars : List Var) (h4 : l.beginVar % 4 = 0)
    (hb : l.beginVar ≤ NC_MAX_INT64) :
    enddefG fmt l vars =
      if checkVlens fmt vars = NC_NOERR ∧ fileEnd l vars > NC_MAX_INT64 then (NC_EVARSIZE, none)
      else enddef fmt l vars := by
  unfold enddefG enddef fileEnd
  rw [ncBeginsG_eq fmt l vars h4 hb]
  by_cases hc : checkVlens fmt vars = NC_NOERR
  · by_cases hE : recSection l vars + sumLens (recVars vars) > NC_MAX_INT64 <;> simp [hc, hE]
  · simp [hc]

/-- repaired enddef: accepts exactly when the size rules, the CDF-1 begin rule and the end rule hold;
    otherwise NC_EVARSIZE -/
theorem accept_iff_rules_repaired (fmt : Nat) (l : Lay) (vars : List Var) (hf : fmt = 1 ∨ fmt = 2 ∨ fmt = 5)
    (hw : ∀ v ∈ vars, WF v) (h4 : l.beginVar % 4 = 0) (hb : l.beginVar ≤ 9223372036854775807) :
    ((enddefG fmt l vars).1 = NC_NOERR ↔ SizeRules fmt vars ∧ BeginRule fmt l vars ∧ EndRule l vars) ∧
    ((enddefG fmt l vars).1 = NC_NOERR ∨ (enddefG fmt l vars).1 = NC_EVARSIZE) := by
  obtain ⟨hiff, hcodes⟩ := accept_iff_rules fmt l vars hf hw h4
  have hend : EndRule l vars ↔ ¬ fileEnd l vars > NC_MAX_INT64 := by
    unfold EndRule NC_MAX_INT64; omega
  have hne : NC_EVARSIZE ≠ NC_NOERR := by decide
  rw [enddefG_eq fmt l vars h4 hb, hend]
  by_cases hE : fileEnd l vars > NC_MAX_INT64
  · by_cases hc : checkVlens fmt vars = NC_NOERR
    · simp [hE, hc, hne]
    · have : (enddef fmt l vars).1 ≠ NC_NOERR := fun h =>
        hc ((checkVlens_iff fmt vars hf hw).1.mpr (hiff.mp h).1)
      simpa [hE, hc, this] using hcodes.resolve_left this
  · simpa [hE] using ⟨hiff, hcodes⟩

/-- repaired code: **every definition it accepts has all offsets below 2^63** — the statement that
    is false of the original code (`no_overflow_counterexample`) holds without extra hypothesis -/
theorem no_overflow_repaired (fmt : Nat) (l : Lay) (vars : List Var) (hf : fmt = 1 ∨ fmt = 2 ∨ fmt = 5)
    (hw : ∀ v ∈ vars, WF v) (h4 : l.beginVar % 4 = 0) (hb : l.beginVar ≤ 9223372036854775807)
    (hacc : (enddefG fmt l vars).1 = NC_NOERR) :
    fileEnd l vars < 9223372036854775808 ∧
    (∀ k, l.beginVar + sumLens ((fixedVars vars).take k) < 9223372036854775808) ∧
    (∀ k, recSection l vars + sumLens ((recVars vars).take k) < 9223372036854775808) := by
  have h := ((accept_iff_rules_repaired fmt l vars hf hw h4 hb).1.mp hacc).2.2
  unfold EndRule at h
  have hlt : fileEnd l vars < 9223372036854775808 := by omega
  exact ⟨hlt, (no_overflow_partial l vars hlt).1, (no_overflow_partial l vars hlt).2.1⟩

/-- repaired code assigns the same (specified) begins as the original whenever it accepts -/
theorem begins_spec_repaired (fmt : Nat) (l : Lay) (vars : List Var) (h4 : l.beginVar % 4 = 0)
    (hb : l.beginVar ≤ 9223372036854775807) (b : Begins) (h : (enddefG fmt l vars).2 = some b) :
    b.fixed = (List.range (fixedVars vars).length).map (fixedBegin l vars) ∧
    b.recs = (List.range (recVars vars).length).map (recBegin l vars) ∧
    b.beginRec = recSection l vars := by
  rw [enddefG_eq fmt l vars h4 hb] at h
  split at h
  · cases h
  · exact begins_spec fmt l vars h4 b h

/-- the witness of the finding is rejected by the repaired code, a definition that fits is not -/
example : (enddefG 5 ovfLay ovfVars).1 = NC_EVARSIZE := by decide
example : (enddefG 5 ovfLay (ovfVars.take 1)).1 = NC_NOERR := by decide

/-- the vsize field written for CDF-1/2 always fits 32 bits; it is the exact size up to 2^32-4 and
    the conventional 2^32-1 above -/
theorem vsize_field_ok (fmt len : Nat) (hf : fmt < 5) :
    vsizeField fmt len < 4294967296 ∧ (len ≤ 4294967292 → vsizeField fmt len = len) ∧
    (len > 4294967292 → vsizeField fmt len = 4294967295) := by
  unfold vsizeField
  simp only [hf, if_true]
  split <;> omega

/-- **large offsets**: the offset of an in-range element is `begin + (row-major index)·xsz` and
    lies inside the variable, for extents and indices of any size — nothing in the addressing
    theorem of C15 is bounded by 2^31 or 2^32 -/
theorem large_offsets_correct (v : PnVerif.Scs.VarLayout) (idx : List Nat) (hv : v.isRec = false)
    (hb : PnVerif.Scs.Below v.shape idx) :
    PnVerif.Scs.elemOffset v idx = v.begin + PnVerif.Scs.rowMajor v.shape idx * v.xsz ∧
    PnVerif.Scs.elemOffset v idx + v.xsz ≤ v.begin + PnVerif.Scs.prodl v.shape * v.xsz := by
  have := PnVerif.Scs.elem_end_le _ _ hb v.xsz
  simp only [PnVerif.Scs.elemOffset, hv, Bool.false_eq_true, if_false, true_and]
  omega

/-! ### non-vacuity -/

/-- CDF-2: two small variables, then an oversized last fixed variable (8 × 536870912 bytes = 2^32) -/
def exVars : List Var :=
  [{ xsz := 4, isRec := false, dims := [10] }, { xsz := 8, isRec := false, dims := [3, 5] },
   { xsz := 1, isRec := false, dims := [8, 536870912] }]
def exLay : Lay := { beginVar := 512, vMinfree := 0, rAlign := 4 }

example : (∀ v ∈ exVars, WF v) ∧ exLay.beginVar % 4 = 0 := by decide
example : (enddef 2 exLay exVars).1 = NC_NOERR := by decide
example : SizeRules 2 exVars ∧ Big 2 { xsz := 1, isRec := false, dims := [8, 536870912] } := by decide
example : (enddef 2 exLay (exVars ++ [{ xsz := 4, isRec := true, dims := [] }])).1 = NC_EVARSIZE := by decide
example : (enddef 1 exLay [{ xsz := 1, isRec := false, dims := [2147483643] }, { xsz := 1, isRec := false, dims := [10] }]).1
    = NC_EVARSIZE := by decide
example : fileEnd exLay exVars < 9223372036854775808 := by decide
/-- an element beyond 4 GiB: byte [7][536870911] of an 8 × 536870912 variable at begin 672 -/
example : PnVerif.Scs.elemOffset { begin := 672, xsz := 1, recsize := 0, isRec := false, shape := [8, 536870912] }
    [7, 536870911] = 4294967967 := by decide

def obligations : List String := [
  "defdim_iff", "checkVlen_exact", "checkVlen_no_overflow", "defvar_iff", "check_vlens_iff_rules",
  "accept_iff_rules", "begins_spec", "cdf1_begins_fit",
  "ovf_accepted", "ovf_third_begin", "no_overflow_counterexample", "no_overflow_partial",
  "accept_iff_rules_repaired", "no_overflow_repaired", "begins_spec_repaired",
  "vsize_field_ok", "large_offsets_correct"
]
end PnVerif.Props.C18
