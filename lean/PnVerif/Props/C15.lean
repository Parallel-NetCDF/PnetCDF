import PnVerif.Lemmas.ScsLemmas
import PnVerif.Lemmas.IntraNodeLemmas
import PnVerif.Props.C02
/-
  C15 — out-of-range requests are rejected with the documented error; accepted requests address
  only elements of the addressed variable; rejected and zero-length requests touch nothing.

  Model: Model/Scs.lean (literal transcription of check_start_count_stride & friends of
  src/dispatchers/var_getput.m4, row-major element addressing).  Spec: Spec/InBounds.lean.
  Tie to the source: checks/c15.py runs the real static checker and the public put/get API on the
  same requests as the Lean driver (Driver/C15.lean).

  Guards used below, all of them facts about every reachable call:
    * `r.dims ≠ []`            – the dispatcher calls the checker only when ndims > 0
    * `∀ d ∈ r.dims, 0 ≤ d.shape` – extents of defined dimensions / numrecs are never negative
    * `r.hasStride → c.needCount` – a stride vector only exists in the vars/varm forms
-/
namespace PnVerif.Props.C15
open PnVerif.Scs PnVerif.Spec.InBounds

/-- **Acceptance is exactly InBounds** (over the integers, i.e. when the C arithmetic does not
    overflow – see `checkSCS_iff_partial` for the explicit envelope). -/
theorem checkSCS_iff_exact (c : Ctx) (r : Req) (hne : r.dims ≠ []) (hs : ∀ d ∈ r.dims, 0 ≤ d.shape)
    (hstr : r.hasStride = true → c.needCount = true) :
    checkSCS exact c r = NC_NOERR ↔ InBounds c r := by
  rw [checkSCS_exact_eq c r hs hne]; exact scsU_ok_iff c r hstr

/-- **The documented error, with the documented precedence.**  A rejected request gets
    * NC_EINVALCOORDS  iff some start coordinate is invalid (whatever else is wrong);
    * otherwise NC_EEDGE if the count vector is missing in a form that needs one;
    * otherwise the LEFT-MOST dimension whose edge is wrong decides: NC_ENEGATIVECNT if its count
      is negative, else NC_EEDGE (its edge exceeds the extent) – all dimensions to its left are fine;
    * otherwise (all starts and edges fine) NC_ESTRIDE, and some stride is ≤ 0. -/
theorem checkSCS_error_documented (c : Ctx) (r : Req) (hne : r.dims ≠ []) (hs : ∀ d ∈ r.dims, 0 ≤ d.shape)
    (e : Int) (he : checkSCS exact c r = e) (hrej : e ≠ NC_NOERR) :
    (e = NC_EINVALCOORDS ∧ CoordBad c r) ∨
    (¬ CoordBad c r ∧ r.hasCount = false ∧ c.needCount = true ∧ e = NC_EEDGE) ∨
    (¬ CoordBad c r ∧ r.hasCount = true ∧
      ∃ pre p post, bdims c r = pre ++ p :: post ∧
        (∀ x ∈ pre, ¬ NegCount x ∧ ¬ EdgeBadDim r x) ∧
        ((e = NC_ENEGATIVECNT ∧ NegCount p) ∨ (e = NC_EEDGE ∧ ¬ NegCount p ∧ EdgeBadDim r p))) ∨
    (¬ CoordBad c r ∧ r.hasCount = true ∧ (∀ x ∈ bdims c r, ¬ NegCount x ∧ ¬ EdgeBadDim r x) ∧
      e = NC_ESTRIDE ∧ r.hasStride = true ∧ ∃ d ∈ r.dims, d.stride ≤ 0) := by
  rw [checkSCS_exact_eq c r hs hne] at he
  unfold scsU at he
  split at he
  next hcb => exact Or.inl ⟨he.symm, hcb⟩
  next hcb =>
    split at he
    next hc =>
      split at he
      next hn => exact Or.inr (Or.inl ⟨hcb, hc, hn, he.symm⟩)
      next => exact absurd he.symm hrej
    next hc =>
      have hc : r.hasCount = true := by simpa using hc
      simp only at he
      split at he
      next => exact Or.inr (Or.inr (Or.inl ⟨hcb, hc, edgeU_err r _ e he hrej⟩))
      next h0 =>
        split at he
        next hS =>
          exact Or.inr (Or.inr (Or.inr ⟨hcb, hc, (edgeU_ok_iff r _).mp (by simpa using h0), he.symm, hS.1, hS.2⟩))
        next => exact absurd he.symm hrej

/-- every code the checker can return is one of the five documented ones -/
theorem checkSCS_codes (c : Ctx) (r : Req) (hne : r.dims ≠ []) (hs : ∀ d ∈ r.dims, 0 ≤ d.shape) :
    checkSCS exact c r ∈ [NC_NOERR, NC_EINVALCOORDS, NC_EEDGE, NC_ENEGATIVECNT, NC_ESTRIDE] := by
  by_cases h : checkSCS exact c r = NC_NOERR
  · simp [h]
  · rcases checkSCS_error_documented c r hne hs _ rfl h with ⟨h1, _⟩ | ⟨_, _, _, h1⟩ |
      ⟨_, _, _, _, _, _, _, ⟨h1, _⟩ | ⟨h1, _⟩⟩ | ⟨_, _, _, h1, _⟩ <;> simp [h1]

/-! ### 64-bit arithmetic: the full claim is FALSE of the code (finding F15) -/

/-- all entries of the request are representable MPI_Offset values -/
def Rep64 (r : Req) : Prop :=
  ∀ d ∈ r.dims, fits64 d.shape ∧ fits64 d.start ∧ fits64 d.count ∧ fits64 d.stride

instance (r : Req) : Decidable (Rep64 r) := by unfold Rep64; infer_instance

/-- the property as it should hold of the compiled code, for a given reading `A` of the
    arithmetic in check_EEDGE: for every representable request the checker accepts exactly the
    in-bounds requests -/
def checkSCS_iff_StatementFor (A : Arith) : Prop :=
  ∀ (c : Ctx) (r : Req), r.dims ≠ [] → (∀ d ∈ r.dims, 0 ≤ d.shape) → Rep64 r →
    (r.hasStride = true → c.needCount = true) →
    (checkSCS A c r = NC_NOERR ↔ InBounds c r)

/-- … of the ORIGINAL code (sums and product in wrap-around 64-bit arithmetic) -/
def checkSCS_iff_Statement : Prop := checkSCS_iff_StatementFor c64

def f15Ctx : Ctx := { strict := false, isRec := false, isRead := false, classic := false, needCount := true }
/-- F15: one dimension of extent 10, start 0, count 3, stride 2^62 -/
def f15Req : Req :=
  { dims := [{ shape := 10, start := 0, count := 3, stride := 4611686018427387904 }],
    startNull := false, hasCount := true, hasStride := true }

theorem f15_accepted : checkSCS c64 f15Ctx f15Req = NC_NOERR := by decide
theorem f15_not_inbounds : ¬ InBounds f15Ctx f15Req := by decide
theorem f15_exact_rejects : checkSCS exact f15Ctx f15Req = NC_EEDGE := by decide

theorem checkSCS_iff_counterexample : ¬ checkSCS_iff_Statement := by
  intro h
  have := h f15Ctx f15Req (by decide) (by decide) (by decide) (by decide)
  exact f15_not_inbounds (this.mp f15_accepted)

/-- **the part that does hold**: inside the no-overflow envelope (the four quantities
    check_EEDGE computes per dimension – start+count, count−1, (count−1)·stride,
    start+(count−1)·stride – are representable) the compiled checker accepts exactly the in-bounds
    requests.  What is missing for the full claim: a guard against `(count-1)*stride` overflowing
    in check_EEDGE. -/
theorem checkSCS_iff_partial (c : Ctx) (r : Req) (hne : r.dims ≠ []) (hs : ∀ d ∈ r.dims, 0 ≤ d.shape)
    (hstr : r.hasStride = true → c.needCount = true) (henv : NoOvf r) :
    checkSCS c64 c r = NC_NOERR ↔ InBounds c r := by
  rw [checkSCS_c64 c r henv]; exact checkSCS_iff_exact c r hne hs hstr

/-- **the REPAIRED checker (patch F15-check_EEDGE.diff, tests written as `count > shape - start`
    and `stride > (shape-1-start)/(count-1)`) satisfies the full statement**: no envelope -/
theorem checkSCS_iff_repaired : checkSCS_iff_StatementFor divForm := by
  intro c r hne hs _ hstr
  rw [checkSCS_div c r]; exact checkSCS_iff_exact c r hne hs hstr

/-- the repaired checker returns exactly the codes of the exact-integer checker (hence the
    documented code with the documented precedence, `checkSCS_error_documented`) -/
theorem checkSCS_repaired_eq_exact (c : Ctx) (r : Req) : checkSCS divForm c r = checkSCS exact c r :=
  checkSCS_div c r

/-- and nothing in it can overflow: the strided test is reached only with a non-negative dividend
    and representable operands -/
theorem repaired_no_overflow (s c sh : Int) (hs : 0 ≤ s) (hsh : fits64 sh) (hc : fits64 c)
    (h0 : ¬ c > sh - s) (hc1 : c > 1) :
    0 ≤ sh - 1 - s ∧ fits64 (sh - s) ∧ fits64 (sh - 1 - s) ∧ fits64 (c - 1) ∧ 0 < c - 1 :=
  divForm_no_overflow s c sh hs hsh hc h0 hc1

example : checkSCS divForm f15Ctx f15Req = NC_EEDGE := by decide

/-- inside the envelope the compiled checker also returns the documented code -/
theorem checkSCS_c64_eq_exact (c : Ctx) (r : Req) (henv : NoOvf r) :
    checkSCS c64 c r = checkSCS exact c r := checkSCS_c64 c r henv

/-- a simple sufficient condition for the envelope: every entry is below 2^31 in magnitude -/
theorem noOvf_of_small (r : Req)
    (h : ∀ d ∈ r.dims, -2147483648 ≤ d.start ∧ d.start ≤ 2147483648 ∧ -2147483648 ≤ d.count ∧
      d.count ≤ 2147483648 ∧ -2147483648 ≤ d.stride ∧ d.stride ≤ 2147483648) : NoOvf r := by
  intro d hd
  obtain ⟨h1, h2, h3, h4, h5, h6⟩ := h d hd
  -- |(count-1)·stride| ≤ (2^31+1)·2^31, far inside the 64-bit range
  have hb : ((d.count - 1) * d.stride).natAbs ≤ 2147483649 * 2147483648 := by
    rw [Int.natAbs_mul]; exact Nat.mul_le_mul (by omega) (by omega)
  unfold NoOvfDim fits64
  omega

/-- fixed-size variable: every element of an accepted request lies in `[begin, begin + Π shape · xsz)`,
    the variable's own data area (any rank, by induction over the dimensions) -/
theorem accepted_inside (c : Ctx) (r : Req) (v : VarLayout) (hne : r.dims ≠ [])
    (hs : ∀ d ∈ r.dims, 0 ≤ d.shape) (hstr : r.hasStride = true → c.needCount = true)
    (hrec : c.isRec = false) (hv : v.isRec = false)
    (hshape : v.shape = r.dims.map (fun d => d.shape.toNat))
    (hacc : checkSCS exact c r = NC_NOERR) :
    ∀ off ∈ footprint v r, v.begin ≤ off ∧ off + v.xsz ≤ v.begin + prodl v.shape * v.xsz :=
  inside_fixed c r v hrec hv hshape ((checkSCS_iff_exact c r hne hs hstr).mp hacc)

/-- record variable: every element of an accepted request lies in the variable's slot
    `[begin + rec·recsize, begin + rec·recsize + Π shape[1..] · xsz)` of some record `rec`;
    a read only touches existing records (`rec < numrecs`) -/
theorem accepted_inside_record (c : Ctx) (r : Req) (v : VarLayout) (hne : r.dims ≠ [])
    (hs : ∀ d ∈ r.dims, 0 ≤ d.shape) (hstr : r.hasStride = true → c.needCount = true)
    (hrec : c.isRec = true) (hv : v.isRec = true)
    (hshape : v.shape = r.dims.map (fun d => d.shape.toNat))
    (hacc : checkSCS exact c r = NC_NOERR) :
    ∀ off ∈ footprint v r, ∃ rec : Nat,
      v.begin + rec * v.recsize ≤ off ∧
      off + v.xsz ≤ v.begin + rec * v.recsize + prodl v.shape.tail * v.xsz ∧
      (c.isRead = true → ∀ d0 ∈ r.dims.head?, (rec : Int) < d0.shape) :=
  inside_record c r v hrec hv hshape ((checkSCS_iff_exact c r hne hs hstr).mp hacc)

/-- the row-major offset of coordinates below the extents is below the number of elements (any rank) -/
theorem rowMajor_inside (shape idx : List Nat) (h : Below shape idx) : rowMajor shape idx < prodl shape :=
  rowMajor_lt shape idx h

/-- a request with a zero (or negative) count in any dimension addresses no element at all -/
theorem zero_length_touches_nothing (v : VarLayout) (r : Req) (h : ∃ d ∈ r.dims, effCount r d ≤ 0) :
    footprint v r = [] ∧ ∀ old, newNumrecs old r = old := by
  have hi := indices_empty r h
  refine ⟨by simp [footprint, hi], fun old => ?_⟩
  unfold newNumrecs
  cases r.dims with
  | nil => rfl
  | cons d0 _ => simp [hi]

/-- a rejected put leaves every byte of the file as it was and reports the checker's code -/
theorem rejected_changes_nothing (A : Arith) (c : Ctx) (v : VarLayout) (r : Req) (data : Nat → Nat → Nat) (f : Scs.File)
    (h : checkSCS A c r ≠ NC_NOERR) : apiPut A c v r data f = (f, checkSCS A c r) := by
  unfold apiPut; simp [h]

theorem apiPut_outside (A : Arith) (c : Ctx) (v : VarLayout) (r : Req) (data : Nat → Nat → Nat) (f : Scs.File) (p : Nat)
    (h : checkSCS A c r = NC_NOERR → ∀ off ∈ footprint v r, p < off ∨ off + v.xsz ≤ p) :
    (apiPut A c v r data f).1 p = f p := by
  unfold apiPut
  by_cases hacc : checkSCS A c r = NC_NOERR
  · simp only [hacc, ne_eq, not_true_eq_false, if_false]
    exact writeAll_outside _ _ _ _ _ _ (h hacc)
  · simp [hacc]

/-- a zero-length put leaves every byte of the file as it was -/
theorem zero_length_put_changes_nothing (A : Arith) (c : Ctx) (v : VarLayout) (r : Req) (data : Nat → Nat → Nat)
    (f : Scs.File) (h : ∃ d ∈ r.dims, effCount r d ≤ 0) : (apiPut A c v r data f).1 = f := by
  funext p
  apply apiPut_outside
  simp [(zero_length_touches_nothing v r h).1]

/-- an accepted put to a fixed-size variable changes no byte outside the variable's own area:
    not the header, not another variable -/
theorem accepted_put_changes_only_target (c : Ctx) (r : Req) (v : VarLayout) (hne : r.dims ≠ [])
    (hs : ∀ d ∈ r.dims, 0 ≤ d.shape) (hstr : r.hasStride = true → c.needCount = true)
    (hrec : c.isRec = false) (hv : v.isRec = false)
    (hshape : v.shape = r.dims.map (fun d => d.shape.toNat))
    (data : Nat → Nat → Nat) (f : Scs.File) (p : Nat)
    (hp : p < v.begin ∨ v.begin + prodl v.shape * v.xsz ≤ p) :
    (apiPut exact c v r data f).1 p = f p := by
  apply apiPut_outside
  intro hacc off hoff
  have := accepted_inside c r v hne hs hstr hrec hv hshape hacc off hoff
  omega

/-- same for a record variable: a byte that is in no record slot of the variable is unchanged -/
theorem accepted_put_changes_only_target_record (c : Ctx) (r : Req) (v : VarLayout) (hne : r.dims ≠ [])
    (hs : ∀ d ∈ r.dims, 0 ≤ d.shape) (hstr : r.hasStride = true → c.needCount = true)
    (hrec : c.isRec = true) (hv : v.isRec = true)
    (hshape : v.shape = r.dims.map (fun d => d.shape.toNat))
    (data : Nat → Nat → Nat) (f : Scs.File) (p : Nat)
    (hp : ∀ rec : Nat, p < v.begin + rec * v.recsize ∨
                       v.begin + rec * v.recsize + prodl v.shape.tail * v.xsz ≤ p) :
    (apiPut exact c v r data f).1 p = f p := by
  apply apiPut_outside
  intro hacc off hoff
  obtain ⟨rec, h1, h2, _⟩ := accepted_inside_record c r v hne hs hstr hrec hv hshape hacc off hoff
  have := hp rec
  omega

/-! ### intra-node write aggregation (src/drivers/ncmpio/ncmpio_intra_node.c, Model/IntraNode.lean)

  With the hint nc_num_aggrs_per_node an accepted collective write does not go through the file-type
  path of ncmpio_filetype.c: every rank flattens its request into (offset, length) pairs
  (flatten_req / flatten_subarray), sends pairs and data to its aggregator, which sorts, merges,
  packs and coalesces them and issues ONE write.  The two theorems say that this path touches exactly
  the addressed elements with exactly the bytes of the right rank's buffer. -/

open PnVerif.IntraNode PnVerif.Access in
/-- the pairs of one call of flatten_subarray (one record, or a whole fixed-size variable) -/
theorem flattenSubarray_offsets (el b : Nat) (dimlen s c k : List Nat)
    (h1 : s.length = c.length) (h2 : s.length = k.length) (h3 : s.length = dimlen.length)
    (hel : 0 < el) (hpos : ∀ x ∈ c, 0 < x) :
    PnVerif.IntraNode.expandPairs el (PnVerif.IntraNode.flattenSubarray el b dimlen s c k)
      = (PnVerif.Access.enumIdx s c k).map (PnVerif.Access.elemOff (PnVerif.IntraNode.arr el b dimlen)) := by
  unfold flattenSubarray
  by_cases hd : dimlen.length = 0
  · obtain rfl := List.length_eq_zero_iff.mp hd
    obtain rfl := List.length_eq_zero_iff.mp h3
    simp [expandPairs, enumIdx, elemOff, arr, Access.rowMajor, Nat.div_self hel]
  · rw [if_neg hd, expandPairs_map, flattenSubarrayOffs_eq]
    exact PnVerif.Props.C02.varsFlatten_offsets el b dimlen s c k h1 h2 h3 (fun h => hd (by rw [← h3, h]; rfl)) hel hpos

open PnVerif.IntraNode PnVerif.Access in
/-- For every variable (scalar, fixed-size or record, any rank) and every
    start/count/stride with positive counts, the (offset, length) pairs emitted by flatten_req expand to
    exactly the file offsets of the request's elements (`Access.elemOff`, the format's element address),
    in request order — none missing, none extra, none repeated.  The shape advanced past the record
    dimension, the stride of the record dimension and the per-dimension strides are all in this
    statement (seeded changes C10-1, C15-3 and the repaired F22 falsify it). -/
theorem flattenReq_offsets (v : PnVerif.Access.VarLay) (s c k : List Nat)
    (h1 : s.length = c.length) (h2 : s.length = k.length) (h3 : s.length = v.shape.length)
    (hel : 0 < v.xsz) (hpos : ∀ x ∈ c, 0 < x) :
    PnVerif.IntraNode.expandPairs v.xsz (PnVerif.IntraNode.flattenReq v s c k)
      = (PnVerif.Access.enumIdx s c k).map (PnVerif.Access.elemOff v) := by
  by_cases hsh : v.shape = []
  · obtain rfl := List.length_eq_zero_iff.mp (by rw [h3, hsh]; rfl)
    simp [flattenReq, hsh, expandPairs, enumIdx, elemOff, Access.rowMajor, Nat.div_self hel]
  · cases hr : v.isRec
    · rw [flattenReq_fixed v s c k hr, flattenSubarray_offsets v.xsz v.begin v.shape s c k h1 h2 h3 hel hpos]
      exact List.map_congr_left (fun idx _ => by rw [elemOff_arr, elemOff_fixed hr])
    · -- one call of flatten_subarray per record, `stride[0] * recsize` apart
      obtain ⟨s0, ss, rfl⟩ :=
        List.exists_cons_of_ne_nil (List.ne_nil_of_length_pos (h3 ▸ List.length_pos_iff.mpr hsh))
      obtain ⟨c0, cs, k0, ks, n0, ns, rfl, rfl, hns, h1, h2, h3⟩ := exists_cons_of_length_cons h1 h2 h3
      rw [flattenReq_rec v _ _ _ hr hsh, expandPairs_flatMap]
      simp only [hns, List.headD_cons, List.drop_succ_cons, List.drop_zero, enumIdx, List.map_flatMap, List.map_map]
      congr 1; funext i
      rw [flattenSubarray_offsets v.xsz _ ns ss cs ks h1 h2 h3 hel (fun x hx => hpos x (List.mem_cons_of_mem _ hx))]
      apply List.map_congr_left
      intro idx _
      simp only [Function.comp, elemOff_arr, elemOff_rec hr, hns, List.drop_succ_cons, List.drop_zero, Nat.add_mul,
        Nat.mul_assoc, Nat.add_assoc]

end PnVerif.Props.C15

namespace PnVerif.IntraNode
open PnVerif.Access

/-- what the request queue guarantees about an entry: vectors as long as the variable's shape,
    positive counts, element size > 0, and a non-lead request of a record variable lies within one
    record (the queue splits multi-record requests, `count[0] = 1`) -/
def PReq.WF (q : PReq) : Prop :=
  q.start.length = q.count.length ∧ q.start.length = q.stride.length ∧ q.start.length = q.v.shape.length ∧
  0 < q.v.xsz ∧ (∀ x ∈ q.count, 0 < x) ∧ (q.v.isRec = true → q.v.shape ≠ [] ∧ q.count.headD 0 = 1)

end PnVerif.IntraNode

namespace PnVerif.Props.C15
open PnVerif.Scs PnVerif.Spec.InBounds

open PnVerif.IntraNode in
/-- per request flatten_reqs and flatten_req (blocking path) emit the same pairs -/
theorem flattenReqs_agrees_with_flattenReq (q : PnVerif.IntraNode.PReq) (h : q.WF) :
    PnVerif.IntraNode.flattenOne q = PnVerif.IntraNode.flattenReq q.v q.start q.count q.stride := by
  obtain ⟨_, _, _, _, _, hrec⟩ := h
  unfold flattenOne
  cases hr : q.v.isRec
  · simp [flattenReq_fixed _ _ _ _ hr]
  · obtain ⟨hne, hc1⟩ := hrec hr
    rw [flattenReq_rec _ _ _ _ hr hne, hc1]
    simp

/-- Nonblocking path: flatten_reqs turns the pending put requests of one
    rank — any number, fixed-size and record variables of any rank mixed, each non-lead request of a
    record variable within one record — into pairs that expand to exactly the elements of the
    requests, request after request in queue order.  The pairs (in this order, followed by the other
    ranks') are the aggregator's `inputs`, and the packed write buffer is the requests' data in the same
    order, so with `aggrMerge_preserves` the aggregated nonblocking write moves exactly the byte pairs of
    the individual requests.  (Seeded change C02-4 — `shape++` dropped for record variables —
    falsifies it.) -/
theorem flattenReqs_offsets (qs : List PnVerif.IntraNode.PReq) (h : ∀ q ∈ qs, q.WF) :
    qs.flatMap (fun q => PnVerif.IntraNode.expandPairs q.v.xsz (PnVerif.IntraNode.flattenOne q))
      = qs.flatMap (fun q => (PnVerif.Access.enumIdx q.start q.count q.stride).map (PnVerif.Access.elemOff q.v)) := by
  induction qs with
  | nil => rfl
  | cons q rest ih =>
    have hw := h q List.mem_cons_self
    rw [List.flatMap_cons, List.flatMap_cons, ih (fun x hx => h x (List.mem_cons_of_mem _ hx)),
      flattenReqs_agrees_with_flattenReq q hw]
    obtain ⟨h1, h2, h3, hel, hpos, _⟩ := hw
    rw [flattenReq_offsets q.v q.start q.count q.stride h1 h2 h3 hel hpos]

/-- non-vacuity: two pending requests, records 1 and 3 of r[time][3][5] (recsize 100) and a fixed 2×3 -/
example :
    let r : PnVerif.Access.VarLay := { begin := 100, xsz := 4, shape := [0, 3, 5], isRec := true, recsize := 100 }
    let f : PnVerif.Access.VarLay := { begin := 40, xsz := 2, shape := [2, 3], isRec := false, recsize := 0 }
    PnVerif.IntraNode.flattenReqs [⟨r, [1, 1, 2], [1, 2, 2], [1, 1, 1]⟩, ⟨r, [3, 0, 0], [1, 1, 5], [1, 1, 1]⟩, ⟨f, [0, 1], [2, 2], [1, 1]⟩]
      = [(228, 8), (248, 8), (400, 20), (42, 4), (48, 4)] := by decide

open PnVerif.IntraNode PnVerif.Merge in
/-- packing + coalescing alone (second loop) never changes the byte map, whatever the triples -/
theorem aggrPack_preserves (l : List PnVerif.Merge.Seg) (hp : ∀ s ∈ l, 0 ≤ s.len) :
    (PnVerif.Merge.bytesOf (PnVerif.IntraNode.filePairs l)).zip (PnVerif.IntraNode.wrBuf l)
      = PnVerif.Merge.pairs l := by
  rw [filePairs_eq]
  unfold fileType wrBuf
  rw [coalesce_bytes _ l hp]
  exact zip_flatMap_span l

/-- the meaning of the aggregator's input triples -/
theorem aggr_inputs_meaning (inputs : List (Int × Int)) (hp : ∀ p ∈ inputs, 0 ≤ p.2) :
    (PnVerif.Merge.pairs (PnVerif.IntraNode.mkSegs inputs)).map (·.1)
        = inputs.flatMap (fun p => PnVerif.Merge.span p.1 p.2) ∧
    (PnVerif.Merge.pairs (PnVerif.IntraNode.mkSegs inputs)).map (·.2)
        = PnVerif.Merge.span 0 (PnVerif.IntraNode.sumLens inputs) :=
  PnVerif.IntraNode.mkSegs_meaning inputs 0 hp

open PnVerif.IntraNode PnVerif.Merge in
/-- For any number of ranks and requests whose (offset, length) pairs are
    pairwise disjoint in the file (positive lengths), the aggregator's single write — sort by offset,
    merge loop, packing of recv_buf into wr_buf, coalescing of file-adjacent pairs — moves exactly the
    (file byte ← recv_buf byte) pairs of the inputs: a permutation of `pairs (mkSegs inputs)`, where
    (`aggr_inputs_meaning`) the inputs' file bytes are paired, in arrival order, with the consecutive
    bytes of recv_buf, the concatenation of the ranks' packed write buffers.
    (Seeded change C01-3 — the dropped `bufAddr[i] = bufAddr[j]` — falsifies it.) -/
theorem aggrMerge_preserves (ranks : List (List (Int × Int)))
    (hpos : ∀ p ∈ ranks.flatten, 0 < p.2)
    (hdisj : List.Pairwise (fun a b => a.1 + a.2 ≤ b.1 ∨ b.1 + b.2 ≤ a.1) ranks.flatten) :
    (PnVerif.IntraNode.aggrTransfer ranks.flatten).Perm
      (PnVerif.Merge.pairs (PnVerif.IntraNode.mkSegs ranks.flatten)) := by
  unfold aggrTransfer aggregate mkSegs
  have hp := mkSegs_pos _ 0 hpos
  have hd : SymDisj _ := mkSegs_pairwise _ _ 0 hdisj
  generalize mkSegsFrom 0 ranks.flatten = segs at hp hd ⊢
  have hperm := sortSegs_perm segs
  obtain ⟨hp', hdisj⟩ := sorted_perm_disj hperm (sortSegs_sorted segs) hp hd
  rw [aggrPass1_eq, aggrPack_preserves _ (fun s h => Int.le_of_lt ((mergeSegs_out _ hp').1 s h)),
      mergeSegs_disjoint _ hp' hdisj]
  exact pairs_perm _ _ hperm

/-- **an accepted request that goes through intra-node aggregation covers exactly the request's
    footprint**: the pairs of flatten_req expand to `footprint v r`, the element offsets of the C15
    addressing model, for which `accepted_inside` / `accepted_inside_record` show that they lie inside
    the addressed variable (its record slots) — nothing else is touched -/
theorem aggregated_write_footprint (c : Ctx) (r : Req) (v : VarLayout) (hne : r.dims ≠ [])
    (hs : ∀ d ∈ r.dims, 0 ≤ d.shape) (hstr : r.hasStride = true → c.needCount = true)
    (hacc : checkSCS exact c r = NC_NOERR)
    (hlen : v.shape.length = r.dims.length) (hel : 0 < v.xsz) (hpos : ∀ d ∈ r.dims, 0 < effCount r d) :
    PnVerif.IntraNode.expandPairs v.xsz
        (PnVerif.IntraNode.flattenReq (PnVerif.IntraNode.toLay v) (r.dims.map (fun d => d.start.toNat))
          (r.dims.map (fun d => (effCount r d).toNat)) (r.dims.map (fun d => (effStride r d).toNat)))
      = footprint v r := by
  obtain ⟨_, _, hdims, _⟩ := (checkSCS_iff_exact c r hne hs hstr).mp hacc
  have hd : ∀ d ∈ r.dims, 0 ≤ d.start ∧ 0 ≤ effStride r d := by
    intro d hdm
    obtain ⟨b, hb⟩ := (mem_dims_iff c r d).mp hdm
    obtain ⟨hstart, _, hstride, _⟩ := hdims (b, d) hb
    exact ⟨hstart, by simp only at hstride; omega⟩
  have hx0 : v.xsz = (PnVerif.IntraNode.toLay v).xsz := rfl
  rw [hx0, flattenReq_offsets (PnVerif.IntraNode.toLay v) _ _ _ (by simp) (by simp)
      (by simp [PnVerif.IntraNode.toLay, hlen]) hel
      (by intro x hx; obtain ⟨d, hdm, rfl⟩ := List.mem_map.mp hx; have := hpos d hdm; omega),
    ← PnVerif.IntraNode.cart_enumIdx (·.start) (effCount r) (effStride r) r.dims hd, List.map_map]
  apply List.map_congr_left
  intro ix hix
  have hx : (ix.map Int.toNat).length = v.shape.length := by
    simp [PnVerif.IntraNode.cart_length _ ix hix, hlen]
  exact (PnVerif.IntraNode.elemOffset_agree v _ hx
    (fun h => hne (List.length_eq_zero_iff.mp (by rw [← hlen, ← hx, h]; rfl)))).symm

/-- … hence every byte of the flattened pairs of an accepted write to a fixed-size variable lies in
    the variable's own data area -/
theorem aggregated_write_inside (c : Ctx) (r : Req) (v : VarLayout) (hne : r.dims ≠ [])
    (hs : ∀ d ∈ r.dims, 0 ≤ d.shape) (hstr : r.hasStride = true → c.needCount = true)
    (hrec : c.isRec = false) (hv : v.isRec = false)
    (hshape : v.shape = r.dims.map (fun d => d.shape.toNat))
    (hacc : checkSCS exact c r = NC_NOERR) (hel : 0 < v.xsz) (hpos : ∀ d ∈ r.dims, 0 < effCount r d) :
    ∀ off ∈ PnVerif.IntraNode.expandPairs v.xsz
        (PnVerif.IntraNode.flattenReq (PnVerif.IntraNode.toLay v) (r.dims.map (fun d => d.start.toNat))
          (r.dims.map (fun d => (effCount r d).toNat)) (r.dims.map (fun d => (effStride r d).toNat))),
      v.begin ≤ off ∧ off + v.xsz ≤ v.begin + prodl v.shape * v.xsz := by
  rw [aggregated_write_footprint c r v hne hs hstr hacc (by rw [hshape]; simp) hel hpos]
  exact accepted_inside c r v hne hs hstr hrec hv hshape hacc

/-- non-vacuity: a 3-D record variable with a non-square record (3 × 5), strided in the record
    dimension and in both inner dimensions (kernel-evaluated) -/
example :
    let v : PnVerif.Access.VarLay := { begin := 100, xsz := 4, shape := [0, 3, 5], isRec := true, recsize := 100 }
    PnVerif.IntraNode.flattenReq v [1, 0, 1] [2, 2, 2] [2, 2, 2]
      = [(204, 4), (212, 4), (244, 4), (252, 4), (404, 4), (412, 4), (444, 4), (452, 4)] := by decide
/-- two ranks, file-adjacent AND memory-adjacent pairs of rank 0 fused, rank 1 interleaved -/
example : PnVerif.IntraNode.aggregate [(0, 4), (4, 4), (16, 4), (8, 4), (20, 4)]
    = [⟨0, 8, 0⟩, ⟨8, 4, 12⟩, ⟨16, 4, 8⟩, ⟨20, 4, 16⟩] := by decide
example : PnVerif.IntraNode.filePairs (PnVerif.IntraNode.aggregate [(0, 4), (4, 4), (16, 4), (8, 4), (20, 4)])
    = [(0, 12), (16, 8)] := by decide

/-! ### non-vacuity: concrete instances meeting the hypotheses -/

def exCtx : Ctx := { strict := false, isRec := false, isRead := false, classic := true, needCount := true }
/-- a 2-D strided request into a 4×6 variable -/
def exReq : Req :=
  { dims := [{ shape := 4, start := 1, count := 2, stride := 2 }, { shape := 6, start := 0, count := 3, stride := 2 }],
    startNull := false, hasCount := true, hasStride := true }
def exVar : VarLayout := { begin := 512, xsz := 4, recsize := 0, isRec := false, shape := [4, 6] }

example : exReq.dims ≠ [] ∧ (∀ d ∈ exReq.dims, 0 ≤ d.shape) ∧ (exReq.hasStride = true → exCtx.needCount = true) ∧
    NoOvf exReq := by
  refine ⟨by decide, by decide, by decide, ?_⟩
  apply noOvf_of_small; decide
example : checkSCS exact exCtx exReq = NC_NOERR := by decide
example : InBounds exCtx exReq := by decide
example : footprint exVar exReq = [536, 544, 552, 584, 592, 600] := by decide
example : checkSCS exact exCtx { exReq with dims := [{ shape := 4, start := 1, count := 2, stride := 3 },
    { shape := 6, start := 0, count := -1, stride := 2 }] } = NC_EEDGE := by decide
example : checkSCS exact { exCtx with isRec := true, isRead := true } { exReq with dims :=
    [{ shape := 0, start := 0, count := 1, stride := 1 }] } = NC_EINVALCOORDS := by decide
-- checks that the hypothesis is met and that the footprint evaluates to `[]` (the equation itself is proof irrelevance)
example : (zero_length_touches_nothing exVar { exReq with dims := [{ shape := 4, start := 4, count := 0, stride := 1 },
    { shape := 6, start := 0, count := 3, stride := 2 }] } ⟨_, List.mem_cons_self, by decide⟩).1 = rfl := rfl

def obligations : List String := [
  "checkSCS_iff_exact", "checkSCS_error_documented", "checkSCS_codes",
  "f15_accepted", "f15_not_inbounds", "f15_exact_rejects", "checkSCS_iff_counterexample",
  "checkSCS_iff_partial", "checkSCS_c64_eq_exact", "noOvf_of_small",
  "checkSCS_iff_repaired", "checkSCS_repaired_eq_exact", "repaired_no_overflow",
  "flattenReq_offsets", "flattenSubarray_offsets", "flattenReqs_offsets", "flattenReqs_agrees_with_flattenReq", "aggrMerge_preserves", "aggr_inputs_meaning", "aggrPack_preserves",
  "aggregated_write_footprint", "aggregated_write_inside",
  "accepted_inside", "accepted_inside_record", "rowMajor_inside",
  "zero_length_touches_nothing", "rejected_changes_nothing", "zero_length_put_changes_nothing",
  "accepted_put_changes_only_target", "accepted_put_changes_only_target_record"
]
end PnVerif.Props.C15
