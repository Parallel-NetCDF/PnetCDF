import PnVerif.Model.IoStatus
import PnVerif.Gen.ErrMap
import PnVerif.Gen.IoSites
/-
  C11 — I/O failures are never silently dropped.

  Property (properties.jsonl): if the MPI-IO layer reports a failure of ANY error class for a read or
  write issued on behalf of a library call, that call (or the wait that completes the request)
  returns an error on the process where the failure occurred.

  The tables `sites`, `chains`, `paths`, `explicitMap` are REGENERATED from the C source on every run
  (tools/gen_c11_iosites.py); the theorems below are re-checked against the regenerated tables, so a
  new `onlyIfEFILE` site, a deleted `status = err`, an `err` that a later call overwrites ... changes a
  table row: it becomes a present exception, the full statement is refuted for that tree, and the check
  reports the row unless KNOWN_FINDINGS.txt has a finding for it.

  The full statement `NoSilentDrop_Statement` is FALSE of a tree that still has dropping rows (the
  known defects, each replayed on the real library by the fault-injection harness) and TRUE of a tree
  that has none.  This file is valid for BOTH: `exceptions` is COMPUTED from the regenerated table
  (the rows whose pattern does not keep a failure), the theorems are about the exceptions PRESENT:
    no_silent_drop_partial          nothing outside the present exceptions drops (every class, every code)
    exceptions_are_real             every present exception is a real drop of the table
    no_silent_drop_iff_no_exceptions   Statement ↔ exceptions = []
  Which of the present exceptions are TOLERATED is not decided here: checks/c11.py compares them with
  the `finding:` lines of KNOWN_FINDINGS.txt (an exception without a finding is reported).

  Rows are referred to by the generated constants `Key.<row id>` (numeric keys; the strings of the
  tables are labels only, the kernel never compares them): a row that disappears from the source
  makes this file fail to elaborate.
-/
namespace PnVerif.Props.C11
open PnVerif.IoStatus PnVerif.Gen.IoSites PnVerif.Gen.ErrMap

/-- NC code of an MPI error class (ncmpii_error_mpi2nc of this tree) -/
def ncOf (cls : Nat) : Int := mpi2nc explicitMap defaultCode cls

def pathsOf (s : Site) : List Path := paths.filter (fun p => p.fn == s.fn)

/-- values the driver entry point of `p` can return when site `s` fails with a code of class `cls` -/
def apiStatus (s : Site) (p : Path) (cls : Nat) : List Int := apiOutcomes chains s p (ncOf cls)

/-- THE PROPERTY, at full strength: every data-transfer call site (all rows of `sites` are
    MPI_File_{read,write}* calls), every call path to a driver entry point, every MPI error class:
    no possible return value is NC_NOERR. -/
def NoSilentDrop_Statement : Prop :=
  ∀ s ∈ sites, ∀ p ∈ pathsOf s, ∀ c ∈ mpiClasses, ∀ r ∈ apiStatus s p c.2, r ≠ 0

/-- for every class VALUE (also ones this MPI does not define) the NC code is negative: every table
    entry is, and so is the default -/
theorem ncOf_neg (cls : Nat) : ncOf cls < 0 := by
  unfold ncOf mpi2nc
  cases h : explicitMap.lookup cls with
  | none => exact (by decide : defaultCode < 0)
  | some v =>
    have hall : ∀ e ∈ explicitMap, e.2 < 0 := by decide
    exact hall (cls, v) (lookup_some_mem cls explicitMap v h)

theorem errmap_total_all (cls : Nat) : ncOf cls ≠ 0 := Int.ne_of_lt (ncOf_neg cls)

theorem errmap_total : ∀ c ∈ mpiClasses, ncOf c.2 ≠ 0 := fun c _ => errmap_total_all c.2

/-- NC error codes are negative (used by the translator: MPI_Allreduce(MIN) of statuses keeps an error) -/
theorem errmap_negative : ∀ c ∈ mpiClasses, ncOf c.2 < 0 := fun c _ => ncOf_neg c.2

/-- the default (MPI_ERR_IO and every class without a row) is NC_EFILE, and the table has no row for it -/
theorem errmap_default_is_EFILE : defaultCode = NC_EFILE ∧ ∀ e ∈ explicitMap, e.2 ≠ NC_EFILE := by decide

theorem nothing_untranslatable : untranslatable = [] := by decide

theorem no_unknown_pattern :
    (∀ s ∈ sites, s.pattern ≠ .unknown) ∧ (∀ ch ∈ chains, ch.pattern ≠ .unknown) := by decide +kernel

/-- the pattern label of every row is a sound summary of its outcome table: for EVERY incoming code -/
theorem site_pattern_sound : ∀ s ∈ sites, ∀ m : Int, s.out.eval m = patternEval NC_EFILE s.pattern s.code m := by
  have h : ∀ s ∈ sites, agrees NC_EFILE s.pattern s.code s.out = true := by decide +kernel
  intro s hs m
  exact agrees_sound _ _ _ _ (h s hs) m

theorem chain_pattern_sound : ∀ ch ∈ chains, ∀ m : Int, ch.out.eval m = patternEval NC_EFILE ch.pattern ch.code m := by
  have h : ∀ ch ∈ chains, agrees NC_EFILE ch.pattern ch.code ch.out = true := by decide +kernel
  intro ch hch m
  exact agrees_sound _ _ _ _ (h ch hch) m

/-- every path is a real call chain of the table: starts at the site's function, consecutive rows
    are callee/caller, ends at a driver entry point -/
theorem paths_wellformed :
    ∀ p ∈ paths, chainLinked chains p.fn p.chain p.chainKeys p.api = true ∧ p.api ∈ driverEntries := by decide +kernel

theorem every_site_has_a_path : ∀ s ∈ sites, pathsOf s ≠ [] := by decide +kernel

/-- `Nodup` as a function the kernel evaluates -/
def distinctB : List Nat → Bool
  | [] => true
  | a :: l => !l.contains a && distinctB l

theorem nodup_of_distinctB : ∀ l : List Nat, distinctB l = true → l.Nodup
  | [], _ => .nil
  | a :: l, h => by
    rw [distinctB, Bool.and_eq_true, Bool.not_eq_true', List.contains_eq_mem, decide_eq_false_iff_not] at h
    exact List.nodup_cons.mpr ⟨h.1, nodup_of_distinctB l h.2⟩

theorem keys_distinct : (sites.map (·.key)).Nodup ∧ (chains.map (·.key)).Nodup :=
  ⟨nodup_of_distinctB _ (by decide +kernel), nodup_of_distinctB _ (by decide +kernel)⟩

inductive ClassFilter where
  | anyClass      -- every class is dropped
  | nonEFILE      -- classes whose NC code is not NC_EFILE are dropped (NO_SPACE, QUOTA, ACCESS, ...)
  deriving DecidableEq, Repr

structure Exception where
  row : Nat               -- key of the site or chain row that drops the failure
  filter : ClassFilter
  deriving Repr, DecidableEq

/-- a row is an exception iff its pattern does not keep every non-zero code -/
def rowException (key : Nat) (p : Pattern) (c : Int) : Option Exception :=
  if p.keeps c then none
  else if p == .onlyIfEFILE && c != 0 then some ⟨key, .nonEFILE⟩
  else some ⟨key, .anyClass⟩

/-- The exceptions PRESENT in the regenerated table.  Unfixed tree: the F6 sites (write_NC.1/.2,
    move_file_block.1-3, ncmpio_write_numrecs.2/.3: nonEFILE), F3 (req_commit>wait_getput.1 and the
    intra-node variant), fillerup_aggregate.1/.2, ncmpio_redef>ncmpio_end_indep_data.1, the dimid loop
    of hdr_get_NC_var (uint32.2/uint64.2) and the four zero-length participation sites.  A repaired
    row simply is no longer in the list. -/
def exceptions : List Exception :=
  sites.filterMap (fun s => rowException s.key s.pattern s.code) ++
  chains.filterMap (fun ch => rowException ch.key ch.pattern ch.code)

def Exception.coversB (e : Exception) (s : Site) (p : Path) (isEfile : Bool) : Bool :=
  (e.row == s.key || p.chainKeys.contains e.row) &&
  (match e.filter with | .anyClass => true | .nonEFILE => !isEfile)

/-- is the case (site, path, class with NC code m) one of the listed known defects -/
def exceptedB (s : Site) (p : Path) (isEfile : Bool) : Bool := exceptions.any (fun e => e.coversB s p isEfile)
def excepted (s : Site) (p : Path) (m : Int) : Bool := exceptedB s p (m == NC_EFILE)

/-- a site reports a failure whose NC code is / is not NC_EFILE -/
def siteOKat (s : Site) (isEfile : Bool) : Bool :=
  s.pattern.keeps s.code || (s.pattern == .onlyIfEFILE && isEfile && s.code != 0)

def chainsKeep (p : Path) : Bool :=
  (p.chain.filterMap (fun i => chains[i]?)).all (fun ch => ch.pattern.keeps ch.code)

theorem Exception.coversB_of (e : Exception) (s : Site) (p : Path) (b : Bool)
    (hrow : e.row = s.key ∨ e.row ∈ p.chainKeys) (hf : e.filter = .nonEFILE → b = false) :
    e.coversB s p b = true := by
  have h1 : (e.row == s.key || p.chainKeys.contains e.row) = true := by
    rw [Bool.or_eq_true, beq_iff_eq, List.contains_iff_mem]
    exact hrow
  rw [Exception.coversB, h1, Bool.true_and]
  cases hfe : e.filter with
  | anyClass => rfl
  | nonEFILE => rw [hf hfe]; rfl

/-- a row that does not report is an exception for the classes it drops: one table fact over the
    sites, one over the paths -/
theorem site_reports_or_excepted : ∀ s ∈ sites, ∀ b : Bool,
    siteOKat s b = true ∨ ∃ e ∈ exceptions, e.row = s.key ∧ (e.filter = .nonEFILE → b = false) := by
  decide +kernel

theorem path_keeps_or_excepted : ∀ p ∈ paths,
    chainsKeep p = true ∨ ∀ b : Bool,
      ∃ e ∈ exceptions, e.row ∈ p.chainKeys ∧ (e.filter = .nonEFILE → b = false) := by
  decide +kernel

/-- every (site, path, EFILE-or-not) case outside the exception list has a reporting site pattern
    and only keeping chain rows -/
theorem unexcepted_cases_are_clean :
    ∀ s ∈ sites, ∀ p ∈ pathsOf s, ∀ b ∈ [true, false], exceptedB s p b = false →
      siteOKat s b = true ∧ chainsKeep p = true := by
  intro s hs p hp b _ hex
  have hno : ∀ e ∈ exceptions, ¬ e.coversB s p b = true := fun e he hc =>
    absurd (List.any_eq_true.mpr ⟨e, he, hc⟩) (hex ▸ Bool.false_ne_true)
  constructor
  · refine (site_reports_or_excepted s hs b).resolve_right fun ⟨e, he, hrow, hf⟩ => ?_
    exact hno e he (e.coversB_of s p b (.inl hrow) hf)
  · refine (path_keeps_or_excepted p (List.mem_filter.mp hp).1).resolve_right fun h => ?_
    obtain ⟨e, he, hrow, hf⟩ := h b
    exact hno e he (e.coversB_of s p b (.inr hrow) hf)

/-! ### from patterns to values: for EVERY non-zero code, not only the codes of this MPI's classes -/

theorem keeps_nonzero (p : Pattern) (c m : Int) (hk : p.keeps c = true) (hm : m ≠ 0) :
    ∀ r ∈ patternEval NC_EFILE p c m, r ≠ 0 := by
  cases p with
  | propagate | returnNow => exact List.forall_mem_singleton.mpr hm
  | mapEFILEthenPropagate | mapEFILEthenReturn =>
    refine List.forall_mem_singleton.mpr ?_
    split
    · exact bne_iff_ne.mp hk
    · exact hm
  | constant => exact List.forall_mem_singleton.mpr (bne_iff_ne.mp hk)
  | _ => exact absurd hk Bool.false_ne_true

theorem siteOK_nonzero (s : Site) (hs : s ∈ sites) (m : Int) (hm : m ≠ 0)
    (hok : siteOKat s (m == NC_EFILE) = true) : ∀ r ∈ s.out.eval m, r ≠ 0 := by
  rw [site_pattern_sound s hs m]
  simp only [siteOKat, Bool.or_eq_true, Bool.and_eq_true] at hok
  rcases hok with hk | ⟨⟨hp, he⟩, hc⟩
  · exact keeps_nonzero _ _ _ hk hm
  · -- an `onlyIfEFILE` row returns `[if m = NC_EFILE then s.code else 0]`, and here `m = NC_EFILE`
    rw [eq_of_beq hp]
    refine List.forall_mem_singleton.mpr ?_
    rw [if_pos (eq_of_beq he)]
    exact bne_iff_ne.mp hc

theorem runChains_nonzero (chs : List Chain)
    (hch : ∀ ch ∈ chs, ch.pattern.keeps ch.code = true ∧ ∀ m, ch.out.eval m = patternEval NC_EFILE ch.pattern ch.code m)
    (rs : List Int) (hrs : ∀ r ∈ rs, r ≠ 0) : ∀ r ∈ runChains chs rs, r ≠ 0 := by
  induction chs generalizing rs with
  | nil => exact hrs
  | cons ch rest ih =>
    have ⟨hk, hev⟩ := hch ch List.mem_cons_self
    refine ih (fun c hc => hch c (List.mem_cons_of_mem _ hc)) _ fun r hr => ?_
    obtain ⟨a, ha, hra⟩ := List.mem_flatMap.mp hr
    have hane := hrs a ha
    rw [stepChain, if_neg hane, hev a] at hra
    exact keeps_nonzero _ _ _ hk hane r hra

/-- GENERAL THEOREM (all codes): a reporting site and keeping chain rows never turn a non-zero
    failure code into NC_NOERR at the driver entry point -/
theorem clean_path_never_drops (s : Site) (hs : s ∈ sites) (p : Path) (m : Int) (hm : m ≠ 0)
    (hsite : siteOKat s (m == NC_EFILE) = true) (hrows : chainsKeep p = true) :
    ∀ r ∈ apiOutcomes chains s p m, r ≠ 0 := by
  unfold apiOutcomes
  apply runChains_nonzero
  · intro ch hch
    refine ⟨List.all_eq_true.mp hrows ch hch, ?_⟩
    have hmem : ch ∈ chains := by
      simp only [List.mem_filterMap] at hch
      obtain ⟨i, _, hi⟩ := hch
      exact List.mem_of_getElem? hi
    exact chain_pattern_sound ch hmem
  · exact siteOK_nonzero s hs m hm hsite

/-- PARTIAL THEOREM, all codes: outside the listed exceptions no non-zero failure code, at any site,
    along any call path, can turn into NC_NOERR -/
theorem no_silent_drop_partial_all_codes :
    ∀ s ∈ sites, ∀ p ∈ pathsOf s, ∀ m : Int, m ≠ 0 → excepted s p m = false →
      ∀ r ∈ apiOutcomes chains s p m, r ≠ 0 := by
  intro s hs p hp m hm hex
  have hb : (m == NC_EFILE) ∈ [true, false] := by cases (m == NC_EFILE) <;> simp
  obtain ⟨h1, h2⟩ := unexcepted_cases_are_clean s hs p hp _ hb hex
  exact clean_path_never_drops s hs p m hm h1 h2

/-- PARTIAL THEOREM as the property states it: every MPI error class -/
theorem no_silent_drop_partial :
    ∀ s ∈ sites, ∀ p ∈ pathsOf s, ∀ c ∈ mpiClasses, excepted s p (ncOf c.2) = false →
      ∀ r ∈ apiStatus s p c.2, r ≠ 0 := by
  intro s hs p hp c hc hex
  exact no_silent_drop_partial_all_codes s hs p hp (ncOf c.2) (errmap_total c hc) hex

theorem no_silent_drop_of_no_exceptions (h : exceptions = []) : NoSilentDrop_Statement := by
  intro s hs p hp c hc r hr
  have hex : excepted s p (ncOf c.2) = false := by simp [excepted, exceptedB, h]
  exact no_silent_drop_partial s hs p hp c hc hex r hr

/-- two representative classes: the generic one (-> NC_EFILE) and a specific one -/
def witnessClasses : List Nat := [Cls.MPI_ERR_IO, Cls.MPI_ERR_NO_SPACE]

theorem witnessClasses_are_classes : ∀ c ∈ witnessClasses, ∃ x ∈ mpiClasses, x.2 = c := by decide +kernel

/-- every PRESENT exception really drops a failure of a class its filter admits, on some path no other
    exception covers, in the current table -/
def Exception.real (e : Exception) : Bool :=
  sites.any (fun s => (pathsOf s).any (fun p => witnessClasses.any (fun c =>
    (e.coversB s p (ncOf c == NC_EFILE) &&
     (exceptions.all (fun e' => e'.row == e.row || !e'.coversB s p (ncOf c == NC_EFILE)))) &&
    (apiOutcomes chains s p (ncOf c)).contains 0)))

theorem exceptions_are_real : ∀ e ∈ exceptions, e.real = true := by decide +kernel

theorem statement_false_of_exception (e : Exception) (he : e ∈ exceptions) : ¬ NoSilentDrop_Statement := by
  intro h
  have hr := exceptions_are_real e he
  unfold Exception.real at hr
  simp only [List.any_eq_true, Bool.and_eq_true] at hr
  obtain ⟨s, hs, p, hp, c, hc, _, h0⟩ := hr
  obtain ⟨x, hx, hxc⟩ := witnessClasses_are_classes c hc
  have h0' : (0 : Int) ∈ apiStatus s p x.2 := by
    rw [hxc]
    unfold apiStatus
    simpa using h0
  exact h s hs p hp x hx 0 h0' rfl

/-- BOTH VARIANTS: the property as written holds exactly when the regenerated table has no dropping row -/
theorem no_silent_drop_iff_no_exceptions : NoSilentDrop_Statement ↔ exceptions = [] := by
  constructor
  · intro h
    cases hE : exceptions with
    | nil => rfl
    | cons e es =>
      exact absurd h (statement_false_of_exception e (by rw [hE]; exact List.mem_cons_self))
  · exact no_silent_drop_of_no_exceptions

/-- the hypothesis of the partial theorem is satisfiable (most of the table is outside the exceptions) -/
theorem partial_nonvacuous :
    (sites.flatMap (fun s => (pathsOf s).flatMap (fun p => witnessClasses.filter (fun c => !excepted s p (ncOf c))))).length ≥ 100 := by
  decide +kernel

/-! ## named witnesses (the cases the harness replays), valid for the unrepaired AND the repaired row:
    "if the row still has the defective pattern, this is the drop; the generic class is reported either way" -/

/-- F6: ncmpi_enddef, header write fails with MPI_ERR_NO_SPACE: NC_NOERR while write_NC is onlyIfEFILE -/
theorem F6_enddef_header_write_no_space :
    ∀ s ∈ sites, s.key = Key.write_NC_2 → s.pattern = .onlyIfEFILE →
      ∃ p ∈ pathsOf s, p.api = Fn.ncmpio_enddef ∧ 0 ∈ apiStatus s p Cls.MPI_ERR_NO_SPACE := by
  decide +kernel

/-- ... and NC_ENO_SPACE once it keeps the code (repaired tree) -/
theorem F6_enddef_header_write_no_space_repaired :
    ∀ s ∈ sites, s.key = Key.write_NC_2 → s.pattern.keeps s.code = true →
      ∀ p ∈ pathsOf s, p.api = Fn.ncmpio_enddef → apiStatus s p Cls.MPI_ERR_NO_SPACE = [ncOf Cls.MPI_ERR_NO_SPACE] := by
  decide +kernel

/-- F6: the same site reports the generic class (MPI_ERR_IO → NC_EFILE → NC_EWRITE) in both variants -/
theorem F6_enddef_header_write_generic_ok :
    ∀ s ∈ sites, s.key = Key.write_NC_2 → ∀ p ∈ pathsOf s, apiStatus s p Cls.MPI_ERR_IO = [NC_EWRITE] := by
  decide +kernel

/-- F3: while req_commit's write-phase row is `overwritable`, a failed collective write of a wait_all that
    also has a read phase can come out as NC_NOERR, whatever the class -/
theorem F3_wait_write_then_read :
    ∀ ch ∈ chains, ch.key = Key.req_commit__wait_getput_1 → ch.pattern = .overwritable →
      ∃ s ∈ sites, ∃ p ∈ pathsOf s, s.key = Key.ncmpio_read_write_3 ∧ p.api = Fn.ncmpio_wait ∧
        ∀ c ∈ mpiClasses, 0 ∈ apiStatus s p c.2 := by decide +kernel

/-- F19 / C11.N1: while fillerup_aggregate's write is `ignored`, the fill write of ncmpi_enddef is dropped for every class -/
theorem F19_fill_write_ignored :
    ∀ s ∈ sites, s.key = Key.fillerup_aggregate_2 → s.pattern = .ignored →
      ∃ p ∈ pathsOf s, p.api = Fn.ncmpio_enddef ∧ ∀ c ∈ mpiClasses, apiStatus s p c.2 = [0] := by decide +kernel

/-! ## req_commit: the hand transcriptions (unrepaired and repaired) and the generated rows agree -/

/-- UNREPAIRED variant (row pattern `overwritable`): what `req_commit` returns for a failed write phase
    (code w) is exactly the row's outcome set: `w` when there is no read phase, 0 (overwritten by the
    successful read) when there is -/
theorem commitStatus_matches_table :
    ∀ ch ∈ chains, ch.key = Key.req_commit__wait_getput_1 → ch.pattern = .overwritable →
      ∀ w : Int, ch.out.eval w = [commitStatus true false w 0, commitStatus true true w 0] := by
  intro ch hch _ hp w
  rw [chain_pattern_sound ch hch w, hp]
  simp [patternEval, commitStatus]

/-- REPAIRED variant (row pattern `propagate`): with or without a read phase the write failure is returned -/
theorem commitStatusFixed_matches_table :
    ∀ ch ∈ chains, ch.key = Key.req_commit__wait_getput_1 → ch.pattern = .propagate →
      ∀ (w : Int) (dr : Bool), w ≠ 0 → ch.out.eval w = [commitStatusFixed true dr w 0] := by
  intro ch hch _ hp w dr hw
  rw [chain_pattern_sound ch hch w, hp]
  cases dr <;> simp [patternEval, commitStatusFixed, hw]

theorem commit_row_is_one_of_the_variants :
    ∀ ch ∈ chains, ch.key = Key.req_commit__wait_getput_1 → ch.pattern = .overwritable ∨ ch.pattern = .propagate := by
  decide +kernel

/-- the read phase itself is reported in both variants (nothing follows it) -/
theorem commit_read_phase_propagates :
    ∀ ch ∈ chains, ch.key = Key.req_commit__wait_getput_2 →
      ∀ r : Int, ch.out.eval r = [commitStatus true true 0 r] ∧ (r ≠ 0 → ch.out.eval r = [commitStatusFixed false true 0 r]) := by
  intro ch hch hid r
  rw [chain_pattern_sound ch hch r]
  have hp : ∀ ch ∈ chains, ch.key = Key.req_commit__wait_getput_2 → ch.pattern = .propagate := by decide +kernel
  rw [hp ch hch hid]
  simp [patternEval, commitStatus, commitStatusFixed]

theorem commit_fixed_no_drop (w r : Int) (dw dr : Bool) (h : (dw = true ∧ w ≠ 0) ∨ (dw = false ∧ dr = true ∧ r ≠ 0)) :
    commitStatusFixed dw dr w r ≠ 0 := by
  rcases h with ⟨h1, h2⟩ | ⟨h1, h2, h3⟩ <;> simp [commitStatusFixed, *]

-- a data read: MPI_ERR_ACCESS at the collective read of a blocking get → NC_EACCESS at ncmpio_get_var
example : ∃ s ∈ sites, ∃ p ∈ pathsOf s, s.key = Key.ncmpio_read_write_1 ∧ p.api = Fn.ncmpio_get_var ∧
    excepted s p (ncOf Cls.MPI_ERR_ACCESS) = false ∧ apiStatus s p Cls.MPI_ERR_ACCESS = [-77] := by decide +kernel
-- the generic class at a data write: NC_EFILE is rewritten to NC_EWRITE and reaches ncmpio_put_var
example : ∃ s ∈ sites, ∃ p ∈ pathsOf s, s.key = Key.ncmpio_read_write_3 ∧ p.api = Fn.ncmpio_put_var ∧
    apiStatus s p Cls.MPI_ERR_IO = [NC_EWRITE] := by decide +kernel
example : commitStatus true true (-206) 0 = 0 := by decide
example : commitStatus true false (-206) 0 = -206 := by decide
example : ncOf Cls.MPI_ERR_NO_SPACE = -224 ∧ ncOf Cls.MPI_ERR_IO = NC_EFILE := by decide +kernel

def obligations : List String := [
  "errmap_total", "errmap_total_all", "errmap_negative", "errmap_default_is_EFILE",
  "nothing_untranslatable", "no_unknown_pattern", "site_pattern_sound", "chain_pattern_sound",
  "paths_wellformed", "every_site_has_a_path", "keys_distinct",
  "unexcepted_cases_are_clean", "keeps_nonzero", "siteOK_nonzero", "runChains_nonzero", "clean_path_never_drops",
  "no_silent_drop_partial_all_codes", "no_silent_drop_partial", "no_silent_drop_of_no_exceptions",
  "witnessClasses_are_classes", "exceptions_are_real", "statement_false_of_exception",
  "no_silent_drop_iff_no_exceptions", "partial_nonvacuous",
  "F6_enddef_header_write_no_space", "F6_enddef_header_write_no_space_repaired", "F6_enddef_header_write_generic_ok",
  "F3_wait_write_then_read", "F19_fill_write_ignored",
  "commitStatus_matches_table", "commitStatusFixed_matches_table", "commit_row_is_one_of_the_variants",
  "commit_read_phase_propagates", "commit_fixed_no_drop"
]
end PnVerif.Props.C11
