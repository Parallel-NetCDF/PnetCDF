import PnVerif.Gen.NcxProofs
import PnVerif.Model.ConvLoop
/-
  C09 — numeric conversion and range checking are exact.

  The per-primitive theorems are GENERATED (Gen/NcxProofs.lean, one per `ncmpix_{get,put}_NC_X_T`
  and one per inlined byte-loop element, list in `Gen.NcxProofs.obligations`).  This file holds the
  hand-stated property-level theorems that lift them to whole requests.
-/
namespace PnVerif.Props.C09
open PnVerif PnVerif.ConvLoop

theorem results_congr {α β : Type} {elem spec : α → β × Int} {xs : List α}
    (h : ∀ x ∈ xs, elem x = spec x) :
    (xs.map (fun x => (elem x).1), firstErr (xs.map (fun x => (elem x).2)))
      = (xs.map (fun x => (spec x).1), firstErr (xs.map (fun x => (spec x).2))) := by
  rw [List.map_congr_left fun x hx => congrArg Prod.fst (h x hx),
    List.map_congr_left fun x hx => congrArg Prod.snd (h x hx)]

/-- Whole-request statement for loops of shape `firstErr`: if the element primitive meets its
    specification on every element that satisfies the type invariant `P`, then the request
    converts every element by the specification, independently of its position and of any
    failing neighbour, and returns the first error. -/
theorem request_firstErr {α β : Type} (elem spec : α → β × Int) (P : α → Prop)
    (h : ∀ x, P x → elem x = spec x) (xs : List α) (hx : ∀ x ∈ xs, P x) :
    loopFirst elem xs = (xs.map (fun x => (spec x).1), firstErr (xs.map (fun x => (spec x).2))) :=
  (loopFirst_spec elem xs).trans (results_congr fun x hxm => h x (hx x hxm))

/-- Same for the inlined byte loops (status assigned on every failing element); needs that the
    only error code an element can produce is `c` (= NC_ERANGE, which is what the spec says). -/
theorem request_inline {α β : Type} (elem spec : α → β × Int) (P : α → Prop) (c : Int)
    (h : ∀ x, P x → elem x = spec x) (hc : ∀ x, (spec x).2 = 0 ∨ (spec x).2 = c)
    (xs : List α) (hx : ∀ x ∈ xs, P x) :
    loopLast elem xs = (xs.map (fun x => (spec x).1), firstErr (xs.map (fun x => (spec x).2))) :=
  (loopLast_spec elem c xs fun x hxm => h x (hx x hxm) ▸ hc x).trans
    (results_congr fun x hxm => h x (hx x hxm))

/-- every specification function only ever reports NC_NOERR or NC_ERANGE -/
theorem specII_codes (lo hi fill v : Int) :
    (ConvSpec.specII lo hi fill v).2 = 0 ∨ (ConvSpec.specII lo hi fill v).2 = -60 := by
  unfold ConvSpec.specII
  split
  · exact .inl rfl
  · exact .inr rfl
theorem specFI_codes (lo hi fill : Int) (v : FV) :
    (ConvSpec.specFI lo hi fill v).2 = 0 ∨ (ConvSpec.specFI lo hi fill v).2 = -60 := by
  unfold ConvSpec.specFI
  split
  · split
    · exact .inl rfl
    · exact .inr rfl
  · exact .inr rfl

/-- the translator classified every getn/putn loop of ncx.c into one of the three modelled
    shapes and left no conversion function untranslated (fail-closed check made a theorem) -/
theorem every_loop_classified :
    ∀ p ∈ Gen.Ncx.loopShapes, p.2 = "firstErr" ∨ p.2 = "inline" ∨ p.2 = "memcpy" := by
  decide +kernel
theorem nothing_untranslatable : Gen.Ncx.untranslatable = [] := by decide

/-- instance of the lifting theorem on a real generated primitive (non-vacuity):
    a put of ints into NC_SHORT, any length, any mix of in-range and out-of-range values -/
theorem putn_SHORT_int_request (R : Rounding) (fill : Option Int) (cur : Int) (xs : List Int)
    (hx : ∀ x ∈ xs, (-2147483648 : Int) ≤ x ∧ x ≤ (2147483647 : Int)) :
    loopFirst (Gen.Ncx.put_NC_SHORT_int R fill cur) xs
      = (xs.map (fun x => (ConvSpec.specII (-32768) 32767 (fill.getD (-32767)) x).1),
         firstErr (xs.map (fun x => (ConvSpec.specII (-32768) 32767 (fill.getD (-32767)) x).2))) :=
  request_firstErr _ _ (fun x => (-2147483648 : Int) ≤ x ∧ x ≤ (2147483647 : Int))
    (fun x hx => Gen.NcxProofs.put_NC_SHORT_int_ok R fill cur x hx.1 hx.2) xs hx

example : loopFirst (Gen.Ncx.put_NC_SHORT_int Rounding.exact (some (-1)) 0) [5, 40000, -7, -40000]
    = ([5, -1, -7, -1], -60) := by decide

def obligations : List String := [
  "request_firstErr", "request_inline", "specII_codes", "specFI_codes",
  "every_loop_classified", "nothing_untranslatable", "putn_SHORT_int_request"
]
end PnVerif.Props.C09
