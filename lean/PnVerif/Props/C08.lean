import PnVerif.Model.World
import PnVerif.Lemmas.World
/-
  C08 — collective calls match on all ranks: no deadlock, errors stay local.

  `localTrace rp api cfg world me` (Model/World.lean) is the sequence of MPI collectives rank `me` executes
  inside the collective call `api`, transcribed from the dispatcher and the ncmpio driver; `world` are the
  inputs of all ranks of the file's communicator (any number of them), `cfg` what is the same on all ranks,
  `rp` which of the proposed repairs are present in the tree (`Repairs.none` = the tree as it is).

  The property as written is FALSE of the tree as it is: `trace_rank_independent_counterexample` and the
  three `…_needs_…` theorems exhibit one witness per defect; the harness replays each witness against the
  real library.  `trace_rank_independent_partial` is the statement with exactly the extra hypothesis
  (no rank's input is a `Trigger`), `trace_rank_independent_repaired` the full statement for the repaired tree.
-/
namespace PnVerif.Props.C08
open PnVerif.World

def trace_rank_independent_Statement (rp : Repairs) : Prop :=
  ∀ (api : Api) (cfg : Cfg) (world : List RankInput) (a b : RankInput), a ∈ world → b ∈ world →
    localTrace rp api cfg world a = localTrace rp api cfg world b

/-- F2: blocking collective put on a record variable, one rank passes a count beyond a fixed dimension
    (NC_EEDGE) and goes through ncmpio_getput_zero_req, which has no numrecs Allreduce -/
def witnessF2 : List RankInput := [{ cls := .argErr .eedge }, { cls := .valid, recEnd := 4 }]
/-- ncmpi_fill_var_rec: one rank names a fixed-size variable (NC_ENOTRECVAR) and returns before the collective fill -/
def witnessFill : List RankInput := [{ fillCls := .ok, recno := 3 }, { fillCls := .notRec, varid := 2 }]
/-- ncmpi_rename_var in data mode with the hint romio_no_indep_rw=true: one rank passes an illegal name
    (NC_EBADNAME) and returns before the collective header write -/
def witnessMeta : List RankInput := [{}, { metaErr := 59 }]

private theorem trace_refutes {rp : Repairs} (api : Api) (cfg : Cfg) (world : List RankInput)
    (h : ∃ a ∈ world, ∃ b ∈ world, localTrace rp api cfg world a ≠ localTrace rp api cfg world b) :
    ¬ trace_rank_independent_Statement rp :=
  fun hs => let ⟨a, ha, b, hb, hne⟩ := h; hne (hs api cfg world a b ha hb)

theorem trace_rank_independent_counterexample : ¬ trace_rank_independent_Statement Repairs.none :=
  trace_refutes (.getput .var .put .record) {} witnessF2 (by decide)

/-- each repair is needed on its own -/
theorem trace_needs_zeroPathNumrecs :
    ¬ trace_rank_independent_Statement { Repairs.all with zeroPathNumrecs := false } :=
  trace_refutes (.getput .vard .put .record) {} witnessF2 (by decide)
/-- the repair proposed for F2 leaves the ranks whose variable ID is unusable (NC_ENOTVAR, NC_EGLOBAL) outside -/
def witnessF2BadVarid : List RankInput := [{ cls := .argErr .enotvar }, { cls := .valid, recEnd := 4 }]
theorem trace_needs_zeroPathBadVarid :
    ¬ trace_rank_independent_Statement { Repairs.all with zeroPathBadVarid := false } :=
  trace_refutes (.getput .var .put .record) {} witnessF2BadVarid (by decide)
theorem trace_needs_fillVarRecErr :
    ¬ trace_rank_independent_Statement { Repairs.all with fillVarRecErr := false } :=
  trace_refutes .fillVarRec {} witnessFill (by decide)
theorem trace_needs_metaErrJoins :
    ¬ trace_rank_independent_Statement { Repairs.all with metaErrJoins := false } :=
  trace_refutes .renameVar { hcoll := true } witnessMeta (by decide)

/-- the witnesses really are of the excluded kind, and ordinary inputs are not (non-vacuity of `Trigger`) -/
example : Trigger Repairs.none (.getput .var .put .record) {} { cls := .argErr .eedge } := by decide
example : ¬ Trigger Repairs.none (.getput .var .put .record) {} { cls := .valid, recEnd := 4 } := by decide
example : ¬ Trigger Repairs.none (.getput .var .put .fixed) {} { cls := .argErr .eedge } := by decide
example : ¬ Trigger Repairs.none (.getput .var .get .record) {} { cls := .argErr .einvalcoords } := by decide
example : ¬ Trigger Repairs.none (.getput .var .put .record) { safe := true } { cls := .argErr .eedge } := by decide

/-- `{}`: a rank with a valid request -/
private theorem getputDriver_of_joins (rp : Repairs) (f : Form) (d : Dir) (vk : VarKind) (cfg : Cfg)
    (world : List RankInput) (x : RankInput) (hx : f ≠ .nb → d = .put → vk = .record → skipsSync rp x = false) :
    getputDriver rp f d vk cfg world x = getputDriver rp f d vk cfg world {} := by
  cases f with
  | nb => rfl
  | var | vard =>
    unfold getputDriver blockingDriver
    cases hc : x.cls with
    | argErr e =>
      by_cases hpr : d = .put ∧ vk = .record
      · have h1 := hx nofun hpr.1 hpr.2
        unfold skipsSync at h1
        rw [hc] at h1
        have : zeroJoins rp e = true := by simpa using h1
        simp only [this, if_true]
      · simp only [hpr, if_false, ite_self]
    | _ => rfl

/-- `c`: the rank has an error of its own; `j`: the repair that makes it join is present -/
private theorem joins_eq (c : Prop) [Decidable c] (j : Bool) (body : Trace) (h : c → j = true) :
    (if c then (if j = true then body else []) else body) = body := by
  by_cases hc : c
  · rw [if_pos hc, if_pos (h hc)]
  · rw [if_neg hc]

private theorem metaJoins {rp : Repairs} {cfg : Cfg} {x : RankInput} (hs : cfg.safe = false)
    (ht : ¬ (rp.metaErrJoins = false ∧ cfg.safe = false ∧ x.metaErr ≠ 0)) : metaCode x ≠ 0 → rp.metaErrJoins = true :=
  fun he => Bool.of_not_eq_false fun hz => ht ⟨hz, hs, fun h0 => he ((metaCode_eq_zero_iff x).mpr h0)⟩

/-- the statement with exactly the hypothesis needed on today's tree: no rank's input is a `Trigger` -/
theorem trace_rank_independent_partial (rp : Repairs) (api : Api) (cfg : Cfg) (world : List RankInput)
    (a b : RankInput) (ha : a ∈ world) (hb : b ∈ world)
    (hta : ¬ Trigger rp api cfg a) (htb : ¬ Trigger rp api cfg b) :
    localTrace rp api cfg world a = localTrace rp api cfg world b := by
  have hroot : world.headD a = world.headD b := headD_of_mem ha a b
  cases api with
  | getput f d vk =>
    simp only [localTrace, getputTrace]
    cases hs : cfg.safe
    · -- a rank that skips the numrecs Allreduce is a Trigger
      simp only [Bool.false_eq_true, if_false]
      exact (getputDriver_of_joins rp f d vk cfg world a fun hf hd hv =>
          Bool.eq_false_iff.mpr fun hq => hta (by subst hd hv; exact ⟨hs, hf, hq⟩)).trans
        (getputDriver_of_joins rp f d vk cfg world b fun hf hd hv =>
          Bool.eq_false_iff.mpr fun hq => htb (by subst hd hv; exact ⟨hs, hf, hq⟩)).symm
    · -- the ranks go on only if the Allreduce found no rank on the NC_REQ_ZERO path
      simp only [if_true]
      congr 1
      split
      · rfl
      next hm =>
      have hskip : ∀ x ∈ world, skipsSync rp x = false := fun x hx =>
        skipsSync_of_not_argErr rp x ((dispErr_eq_zero_iff x).mp
          ((minOf_eq_zero_iff _ (List.forall_mem_map.mpr fun x _ => dispErr_le_zero x)).mp
            (Decidable.not_not.mp hm) _ (List.mem_map_of_mem hx)))
      exact (getputDriver_of_joins rp f d vk cfg world a fun _ _ _ => hskip a ha).trans
        (getputDriver_of_joins rp f d vk cfg world b fun _ _ _ => hskip b hb).symm
  | fillVarRec =>
    simp only [localTrace, fillTrace]
    rw [← hroot]
    cases hs : cfg.safe
    · simp only [Bool.false_eq_true, if_false]
      rw [joins_eq _ _ _ (fun he => Bool.of_not_eq_false fun hz => hta ⟨hz, hs, he⟩),
        joins_eq _ _ _ (fun he => Bool.of_not_eq_false fun hz => htb ⟨hz, hs, he⟩)]
    · simp only [if_true, fillSafeErr_ne_zero_iff _ _ _ _ ha, fillSafeErr_ne_zero_iff _ _ _ _ hb]
  | enddef L wa | renameVar | metaCall k =>
    simp only [localTrace, enddefTrace, renameTrace, metaTrace]
    rw [hroot]
    cases hs : cfg.safe
    · simp only [Bool.false_eq_true, if_false]
      rw [joins_eq _ _ _ (metaJoins hs hta), joins_eq _ _ _ (metaJoins hs htb)]
    · rfl  -- in safe mode the sequence mentions the rank only through root
  | _ => rfl

theorem no_trigger_when_repaired (api : Api) (cfg : Cfg) (x : RankInput) : ¬ Trigger Repairs.all api cfg x := by
  intro h
  cases api with
  | getput f d vk =>
    -- only a put on a record variable has a trigger
    cases d with
    | get => exact h
    | put =>
    cases vk with
    | fixed => exact h
    | record =>
    obtain ⟨_, _, h⟩ := h
    unfold skipsSync at h
    split at h
    · next e _ =>
      have hz : zeroJoins Repairs.all e = true := by unfold zeroJoins; split <;> rfl
      rw [hz] at h
      exact Bool.false_ne_true h
    · exact Bool.false_ne_true h
  | fillVarRec | enddef L wa | renameVar | metaCall k =>
    obtain ⟨h, _⟩ := h
    cases h
  | _ => exact h

/-- with the repairs present the property holds as written -/
theorem trace_rank_independent_repaired : trace_rank_independent_Statement Repairs.all := by
  intro api cfg world a b ha hb
  exact trace_rank_independent_partial _ api cfg world a b ha hb
    (no_trigger_when_repaired api cfg a) (no_trigger_when_repaired api cfg b)

/-- the hypotheses of the partial theorem are met by a mixed world: valid, zero-length, two kinds of
    invalid argument and a driver-level error, on a fixed-size variable (and the traces are not empty) -/
example : localTrace Repairs.none (.getput .var .put .fixed) {}
    [{ cls := .valid }, { cls := .zeroLen }, { cls := .argErr .eedge }, { cls := .argErr .einvalcoords },
     { cls := .drvErr .eiomismatch }] { cls := .argErr .eedge } = [.setView, .writeAll] := by decide
example : localTrace Repairs.none .waitAll { numrecs := 2 }
    [{ nPut := 2, maxRec := 5 }, { nGet := 1 }, {}] {} = [.allreduce, .setView, .writeAll, .setView, .readAll] := by decide

/-- if all ranks execute the same sequence, the matcher consumes it completely: every rank returns.
    Any number of ranks, any sequence (induction on the sequence). -/
theorem matched_traces_no_deadlock (n : Nat) (t : Trace) : Completes (List.replicate n t) :=
  completes_replicate n t

/-- …and only then: the call returns on every rank iff all ranks execute the same sequence -/
theorem completes_iff_all_equal (w : Pending) : Completes w ↔ ∀ a ∈ w, ∀ b ∈ w, a = b := by
  constructor
  · exact all_eq_of_completes
  · intro h
    cases w with
    | nil => exact Completes.done (fun t ht => by cases ht)
    | cons t ts =>
      rw [List.eq_replicate_iff.mpr ⟨rfl, fun b hb => h b hb t List.mem_cons_self⟩]
      exact completes_replicate _ t

/-- and a mismatch is a deadlock: if two ranks execute different sequences the world runs into a state in which
    some rank has not returned and no rank can move -/
theorem mismatch_deadlocks (w : Pending) (a b : Trace) (ha : a ∈ w) (hb : b ∈ w) (hne : a ≠ b) :
    ∃ w', Reach w w' ∧ Stuck w' :=
  (completes_or_stuck a w ha).resolve_left fun hc => hne (all_eq_of_completes hc a ha b hb)

/-- the call returns on every rank whenever no rank's input is a `Trigger` -/
theorem no_deadlock_partial (rp : Repairs) (api : Api) (cfg : Cfg) (world : List RankInput)
    (h : ∀ x ∈ world, ¬ Trigger rp api cfg x) : Completes (world.map (localTrace rp api cfg world)) := by
  rw [completes_iff_all_equal]
  intro ta hta tb htb
  obtain ⟨a, ha, rfl⟩ := List.mem_map.mp hta
  obtain ⟨b, hb, rfl⟩ := List.mem_map.mp htb
  exact trace_rank_independent_partial rp api cfg world a b ha hb (h a ha) (h b hb)

/-- F2 in the model: the ranks with a valid request never return -/
theorem f2_deadlocks :
    ¬ Completes (witnessF2.map (localTrace Repairs.none (.getput .var .put .record) {} witnessF2)) := by
  rw [completes_iff_all_equal]
  intro h
  have := h [.setView, .writeAll] (by decide) [.setView, .writeAll, .allreduce] (by decide)
  revert this; decide

/-- safe mode off: for everything but create/open the code a rank gets depends on its own input only -/
theorem errors_local_data (rp : Repairs) (api : Api) (hapi : api ≠ .create ∧ ∀ n, api ≠ .openFile n) (cfg : Cfg)
    (hs : cfg.safe = false) (w1 w2 : List RankInput) (me : RankInput) :
    localRet rp api cfg w1 me = localRet rp api cfg w2 me := by
  -- every `…Ret` is `if cfg.safe then … else` the rank's own code
  obtain ⟨safe, _, _, _, _, _, _, _⟩ := cfg
  cases hs
  cases api with
  | create => exact absurd rfl hapi.1
  | openFile n => exact absurd rfl (hapi.2 n)
  | _ => rfl

/-- …and for create/open also on root's mode, which every rank adopts -/
theorem errors_local (rp : Repairs) (api : Api) (cfg : Cfg) (hs : cfg.safe = false) (w1 w2 : List RankInput) (me : RankInput)
    (hroot : w1.head? = w2.head?) :
    localRet rp api cfg w1 me = localRet rp api cfg w2 me := by
  cases api with
  | create | openFile n =>
    simp only [localRet, modeRet, hs, Bool.false_eq_true, if_false, List.headD_eq_head?_getD, hroot]
  | _ => exact errors_local_data rp _ (by constructor <;> nofun) cfg hs w1 w2 me

/-- a rank whose own arguments are fine succeeds whatever the others pass -/
theorem valid_rank_succeeds (rp : Repairs) (f : Form) (d : Dir) (vk : VarKind) (cfg : Cfg) (hs : cfg.safe = false)
    (world : List RankInput) (me : RankInput) (hme : me.cls = .valid ∨ me.cls = .zeroLen) :
    localRet rp (.getput f d vk) cfg world me = 0 := by
  rcases hme with h | h <;> simp [localRet, getputRet, hs, dispErr, drvErrOf, h]

example : localRet Repairs.none (.getput .var .put .record) {} witnessF2 { cls := .argErr .eedge } = -57 := by decide
example : localRet Repairs.none (.getput .var .put .record) {} witnessF2 { cls := .valid, recEnd := 4 } = 0 := by decide

/-- the collective metadata calls (and ncmpi_fill_var_rec) -/
def isMetadataCall : Api → Prop
  | .create => True
  | .openFile _ => True
  | .enddef _ _ => True
  | .renameVar => True
  | .fillVarRec => True
  | .metaCall _ => True
  | _ => False

def safe_same_code_Statement (rp : Repairs) : Prop :=
  ∀ (api : Api) (cfg : Cfg) (world : List RankInput) (a b : RankInput), cfg.safe = true → isMetadataCall api →
    a ∈ world → b ∈ world → localRet rp api cfg world a = localRet rp api cfg world b

/-- three ranks in ncmpi_fill_var_rec: root fills record 3, one rank names a variable whose fill mode is off
    (NC_ENOTFILL), one rank passes another record number: the last Allreduce hands NC_EMULTIDEFINE_FNC_ARGS to
    the ranks without an error of their own, the NC_ENOTFILL rank keeps its own code -/
def witnessSafeFill : List RankInput :=
  [{ fillCls := .ok, recno := 3 }, { fillCls := .notFill, varid := 1, recno := 3 }, { fillCls := .ok, recno := 5 }]
/-- three ranks in ncmpi_def_var_fill: rank 1 disagrees with root on no_fill (NC_EMULTIDEFINE_FNC_ARGS), rank 2 on the
    fill value (NC_EMULTIDEFINE_VAR_FILL_VALUE): rank 1 keeps -269, the others get the minimum -272 -/
def witnessSafeDefVarFill : List RankInput :=
  [{ margs := { ident := 1, len := 1, vals := 5 } }, { margs := { ident := 1, xtype := 1, len := 1, vals := 5 } },
   { margs := { ident := 1, len := 1, vals := 6 } }]

private theorem code_refutes {rp : Repairs} (api : Api) (cfg : Cfg) (world : List RankInput)
    (hs : cfg.safe = true) (hapi : isMetadataCall api)
    (h : ∃ a ∈ world, ∃ b ∈ world, localRet rp api cfg world a ≠ localRet rp api cfg world b) :
    ¬ safe_same_code_Statement rp :=
  fun hst => let ⟨a, ha, b, hb, hne⟩ := h; hne (hst api cfg world a b hs hapi ha hb)

theorem safe_same_code_counterexample : ¬ safe_same_code_Statement Repairs.none :=
  code_refutes .fillVarRec { safe := true } witnessSafeFill rfl trivial (by decide)
theorem safe_same_code_counterexample_def_var_fill : ¬ safe_same_code_Statement Repairs.none :=
  code_refutes (.metaCall .defVarFill) { safe := true, indef := true } witnessSafeDefVarFill rfl trivial (by decide)
/-- the repair is needed even when every other repair is present -/
theorem safe_same_code_needs_safeMinCode : ¬ safe_same_code_Statement { Repairs.all with safeMinCode := false } :=
  code_refutes .fillVarRec { safe := true } witnessSafeFill rfl trivial (by decide)

/-- the rank's own code at the tail `if (err == NC_NOERR) err = status` of the safe-mode block in ncmpio_fill_var_rec /
    ncmpio_set_fill / ncmpio_def_var_fill; the other metadata calls have no such tail -/
def keptCode (api : Api) (root : RankInput) : RankInput → Int :=
  match api with
  | .fillVarRec => fillCmpErr root
  | .metaCall k => fun me => metaDriverOwn k root.margs me.margs
  | _ => fun _ => 0

private theorem keep_eq {c : Prop} [Decidable c] {own m : Int} (h : c → own = m) : (if c then own else m) = m := by
  split
  · exact h ‹c›
  · rfl

theorem safe_same_code_of_kept (rp : Repairs) (api : Api) (cfg : Cfg) (world : List RankInput) (a b : RankInput)
    (hs : cfg.safe = true) (hapi : isMetadataCall api) (ha : a ∈ world) (hb : b ∈ world)
    (hkeep : rp.safeMinCode = false → ∀ x ∈ world, keptCode api (world.headD a) x ≠ 0 →
      keptCode api (world.headD a) x = minOf (world.map (keptCode api (world.headD a)))) :
    localRet rp api cfg world a = localRet rp api cfg world b := by
  have hroot : world.headD a = world.headD b := headD_of_mem ha a b
  cases api <;> simp only [isMetadataCall] at hapi
  case fillVarRec | metaCall k =>
    simp only [keptCode] at hkeep
    simp only [localRet, fillRet, fillSafeErr, metaRet, hs, if_true]
    rw [← hroot, keep_eq fun h : _ ∧ _ => hkeep h.1 a ha h.2, keep_eq fun h : _ ∧ _ => hkeep h.1 b hb h.2]
  -- create, open, enddef, rename_var: in safe mode the code mentions the rank only through root
  all_goals simp only [localRet, modeRet, enddefRet, renameRet, hs, if_true, hroot]

/-- on today's tree: holds for the calls whose safe-mode block returns the reduced code on every rank -/
theorem safe_same_code_partial (rp : Repairs) (api : Api) (cfg : Cfg) (world : List RankInput) (a b : RankInput)
    (_hs : cfg.safe = true)
    (hapi : api = .create ∨ (∃ n, api = .openFile n) ∨ (∃ L w, api = .enddef L w) ∨ api = .renameVar)
    (ha : a ∈ world) (_hb : b ∈ world) : localRet rp api cfg world a = localRet rp api cfg world b := by
  rcases hapi with h | ⟨n, h⟩ | ⟨L, w, h⟩ | h <;> subst h <;>
    exact safe_same_code_of_kept rp _ cfg world a b _hs trivial ha _hb fun _ _ _ h => absurd rfl h

/-- with the repair (every safe-mode block returns the Allreduce(MIN) result on every rank) the last sentence of the
    property holds as written: whatever the ranks disagree on, every rank returns the same code from every collective
    metadata call -/
theorem safe_same_code_repaired (rp : Repairs) (hrp : rp.safeMinCode = true) : safe_same_code_Statement rp :=
  fun api cfg world a b hs hapi ha hb =>
    safe_same_code_of_kept rp api cfg world a b hs hapi ha hb fun h => absurd (hrp.symm.trans h) Bool.noConfusion

/-- …and for ncmpi_fill_var_rec when the disagreement is the only error (no rank has an error of its own) -/
theorem safe_same_code_fill (rp : Repairs) (cfg : Cfg) (world : List RankInput) (a b : RankInput) (hs : cfg.safe = true)
    (hown : ∀ x ∈ world, fillOwnErr x = 0) (ha : a ∈ world) (hb : b ∈ world) :
    localRet rp .fillVarRec cfg world a = localRet rp .fillVarRec cfg world b := by
  -- fillCmpErr ∈ {0, -269}: a rank that keeps -269 holds the minimum
  refine safe_same_code_of_kept rp _ cfg world a b hs trivial ha hb fun _ x hx hne => ?_
  have hx269 := (fillCmpErr_of_own_zero (world.headD a) x (hown x hx)).resolve_left hne
  refine (minOf_eq_of_le _ _ (List.mem_map_of_mem hx) (fillCmpErr_le_zero _ x) (List.forall_mem_map.mpr fun y hy => ?_)).symm
  show fillCmpErr _ x ≤ fillCmpErr _ y
  rw [hx269]
  rcases fillCmpErr_of_own_zero (world.headD a) y (hown y hy) with h | h <;> rw [h] <;> decide

example : ∀ x ∈ ([{ fillCls := .ok, recno := 3 }, { fillCls := .ok, recno := 5 }] : List RankInput), fillOwnErr x = 0 := by decide
example : localRet Repairs.none .fillVarRec { safe := true } [{ fillCls := .ok, recno := 3 }, { fillCls := .ok, recno := 5 }]
    { fillCls := .ok, recno := 3 } = -269 := by decide
/-- the two witnesses under the repair: one code on every rank -/
example : (witnessSafeFill.map (localRet Repairs.all .fillVarRec { safe := true } witnessSafeFill)) = [-269, -269, -269] := by decide
example : (witnessSafeDefVarFill.map (localRet Repairs.all (.metaCall .defVarFill) { safe := true, indef := true } witnessSafeDefVarFill))
    = [-272, -272, -272] := by decide

/-- which broadcasts a rank executes in the comparison block is decided by ROOT's arguments: a non-root rank that
    passes nelems = 0 to ncmpi_put_att while root passes 4 elements still takes part in the broadcast of the values
    (5 argument broadcasts + 1 for the values), and every rank gets NC_EMULTIDEFINE_ATTR_LEN -/
example : localTrace Repairs.none (.metaCall .putAtt) { safe := true, indef := true }
    [{ margs := { name := 1, len := 4, vals := 7 } }, { margs := { name := 1, len := 0 } }] { margs := { name := 1, len := 0 } }
    = [.allreduce, .bcast, .bcast, .bcast, .bcast, .bcast, .bcast, .allreduce] := by decide
example : localRet Repairs.none (.metaCall .putAtt) { safe := true, indef := true }
    [{ margs := { name := 1, len := 4, vals := 7 } }, { margs := { name := 1, len := 0 } }] { margs := { name := 1, len := 4, vals := 7 } }
    = -267 := by decide
/-- … and no values broadcast at all when it is root that passes nelems = 0 -/
example : localTrace Repairs.none (.metaCall .putAtt) { safe := true, indef := true }
    [{ margs := { name := 1, len := 0 } }, { margs := { name := 1, len := 4, vals := 7 } }] { margs := { name := 1, len := 4, vals := 7 } }
    = [.allreduce, .bcast, .bcast, .bcast, .bcast, .bcast, .allreduce] := by decide

/-- safe mode on: every rank returns the same code from the metadata calls whose comparison is done in the dispatcher
    (put_att, def_dim, def_var, rename_dim, rename_att, del_att, copy_att), whatever the ranks disagree on -/
theorem safe_same_code_meta (rp : Repairs) (k : MetaKind) (hk : ∀ r m, metaDriverOwn k r m = 0) (cfg : Cfg) (hs : cfg.safe = true)
    (world : List RankInput) (a b : RankInput) (ha : a ∈ world) (_hb : b ∈ world) :
    localRet rp (.metaCall k) cfg world a = localRet rp (.metaCall k) cfg world b :=
  safe_same_code_of_kept rp _ cfg world a b hs trivial ha _hb fun _ _ _ h => absurd (hk _ _) h
example : ∀ r m, metaDriverOwn .putAtt r m = 0 := fun _ _ => rfl
example : ∀ r m, metaDriverOwn .defVar r m = 0 := fun _ _ => rfl
example : ∀ r m, metaDriverOwn .renameAtt r m = 0 := fun _ _ => rfl

/-- the code is the NC_EMULTIDEFINE_* of the first argument (in comparison order) on which some rank differs from root,
    minimised over the ranks: with a single disagreeing argument it is that argument's code on every rank -/
example : localRet Repairs.none (.metaCall .putAtt) { safe := true }
    [{ margs := { name := 1, len := 4, vals := 7 } }, { margs := { name := 1, len := 4, vals := 8 } }, { margs := { name := 1, len := 4, vals := 7 } }]
    { margs := { name := 1, len := 4, vals := 7 } } = -268 := by decide

def obligations : List String := [
  "trace_rank_independent_counterexample", "trace_needs_zeroPathNumrecs", "trace_needs_zeroPathBadVarid", "trace_needs_fillVarRecErr",
  "trace_needs_metaErrJoins", "trace_rank_independent_partial", "trace_rank_independent_repaired",
  "matched_traces_no_deadlock", "completes_iff_all_equal", "mismatch_deadlocks", "no_deadlock_partial", "f2_deadlocks",
  "errors_local", "errors_local_data", "valid_rank_succeeds",
  "safe_same_code_counterexample", "safe_same_code_counterexample_def_var_fill", "safe_same_code_needs_safeMinCode",
  "safe_same_code_repaired", "safe_same_code_partial", "safe_same_code_fill", "safe_same_code_meta"
]
end PnVerif.Props.C08
