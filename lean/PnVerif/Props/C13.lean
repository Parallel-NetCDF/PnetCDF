import PnVerif.Lemmas.AbufLemmas
/-
  C13 — caller buffers are respected; attached-buffer accounting is exact.
  Model: Model/Abuf.lean.

  Caller buffers: during the I/O the user buffer is `afterExit flag buf` for the recorded swap flag
  (`duringIO_eq`, `putVard_go`) and every exit applies `afterExit flag` again.  False as received: the
  zero-size sentence for get_vard (`vard_get_zero_size_counterexample`, finding
  vard-zero-size-filetype-uninitialized).
  Attached buffer: `SInv` holds after every history (`abuf_inv`).  False: "usage = pending bytes" and
  "refused iff the pending bytes leave too little room" (F5, `f5History`), since abuf_coalesce gives space
  back only from the tail; they hold for histories that complete in reverse posting order
  (`usage_eq_pending_partial`).
-/
namespace PnVerif.Props.C13
open PnVerif PnVerif.Abuf

/-- `swapn_involutive`: ncmpii_in_swapn applied twice is the identity, for every element width,
    every element count and every buffer that holds that many elements.  (About `inSwapn`;
    `Abuf.swapn_involutive` is its per-element loop.) -/
theorem swapn_involutive (buf : List UInt8) (nelems : Int) (esize : Nat)
    (h : nelems.toNat * esize ≤ buf.length) : inSwapn (inSwapn buf nelems esize) nelems esize = buf :=
  inSwapn_involutive buf nelems esize h

/-- the swap never changes the length, whatever the arguments (about `inSwapn`) -/
theorem swapn_length (buf : List UInt8) (nelems : Int) (esize : Nat) :
    (inSwapn buf nelems esize).length = buf.length := by
  unfold inSwapn; split
  · rfl
  · exact Abuf.swapn_length esize _ buf

/-- whenever the user buffer itself is handed to MPI-IO no type conversion is pending (so pack_xbuf
    never converts into the user buffer) -/
theorem usesUserBuf_no_convert (api : Api) (h : Hint) (r : Req) (hu : usesUserBuf api h r = true) :
    r.needConvert = false := by
  cases hc : r.needConvert
  · rfl
  · cases api <;> simp [usesUserBuf, hc] at hu

theorem packUser_false (r : Req) (buf : List UInt8) (n : Int) (e : Nat) : packUser r false buf n e = some buf := by
  cases hc : r.needConvert <;> cases hs : r.needSwap <;> simp [packUser, hc, hs]

theorem packUser_true (r : Req) (hc : r.needConvert = false) (buf : List UInt8) (n : Int) (e : Nat) :
    packUser r true buf n e = some (afterExit r.needSwap buf n e) := by
  cases hs : r.needSwap <;> simp [packUser, hc, hs, afterExit]

/-- while the request is pending, the user buffer is swapped in place exactly when the flag that
    makes the exits swap back is recorded -/
theorem duringIO_eq (api : Api) (h : Hint) (r : Req) (buf : List UInt8) (n : Int) (e : Nat) :
    duringIO api h r buf n e = some (afterExit (swapFlag api h r) buf n e) := by
  cases hu : usesUserBuf api h r
  · cases api <;> simp only [duringIO, hu, packUser_false, swapFlag, Bool.false_and] <;> rfl
  · have hp := packUser_true r (usesUserBuf_no_convert api h r hu) buf n e
    cases api <;> simp only [duringIO, hu, hp, swapFlag, Bool.true_and] <;> rfl

/-- the flag-based exits (end of the blocking call, the completing wait, cancel) of every API form
    that decides with `usesUserBuf` (blocking put, iput, iput_varn, bput, bput_varn and the success
    path of put_vard) -/
theorem api_buffer_restored (api : Api) (h : Hint) (r : Req) (buf : List UInt8) (nelems : Int) (esize : Nat)
    (hlen : nelems.toNat * esize ≤ buf.length) :
    ∃ b, duringIO api h r buf nelems esize = some b ∧
         afterExit (swapFlag api h r) b nelems esize = buf :=
  ⟨_, duringIO_eq api h r buf nelems esize, afterExit_involutive _ buf nelems esize hlen⟩

/-- `u` is the decision of `usesUserBuf .putVard` on the request as getput_vard sees it; the in-place
    swap and the swap-back both happen iff `u && needSwap` -/
theorem putVard_go (h : Hint) (a : VardArgs) (buf : List UInt8) {bc bn : Int} {c : Bool}
    (hp : vardPre a = .go bc bn c) :
    let u := usesUserBuf .putVard h ⟨a.needConvert, a.needSwap, c, false, a.filetypeSize⟩
    let during := afterExit (u && a.needSwap) buf bn a.xsz
    putVard h a buf =
      { err := NC_NOERR, ioCalled := if bc == 0 then a.coll else true, xbufIsBuf := u,
        mpiCount := if bc == 0 then 0 else if u then bc else bn,
        during := during, after := afterExit (u && a.needSwap) during bn a.xsz } := by
  have hu : (!a.needConvert && (!a.needSwap || (canSwapInPlace a.needSwap h a.filetypeSize && c))) =
      usesUserBuf .putVard h ⟨a.needConvert, a.needSwap, c, false, a.filetypeSize⟩ := rfl
  simp only [putVard, hp, hu]
  generalize usesUserBuf .putVard h _ = u
  cases u <;> cases bc == 0 <;> simp [afterExit]

/-- every exit of getput_vard for a write: zero-length requests (filetype MPI_DATATYPE_NULL, filetype
    of size 0, bufcount 0), NC_ETYPE_MISMATCH, NC_EIOMISMATCH, and the write itself with the buffer
    swapped in place or packed: the caller's buffer holds its original bytes on return. -/
theorem vard_put_restores (h : Hint) (a : VardArgs) (buf : List UInt8)
    (hlen : ∀ bc bn c, vardPre a = .go bc bn c → bn.toNat * a.xsz ≤ buf.length) :
    (putVard h a buf).after = buf := by
  cases hp : vardPre a with
  | go bc bn c => rw [putVard_go h a buf hp]; exact afterExit_involutive _ buf bn a.xsz (hlen bc bn c hp)
  | _ => simp only [putVard, hp, vardNoWork]

/-- `user_buffer_restored`: for every API form (blocking put, iput, iput_varn, bput, bput_varn,
    put_vard), every hint setting, every combination of conversion / swap / contiguity / imap, every
    request size and every buffer content: the write never converts into the user buffer, and after
    the exit (end of the blocking call, the completing wait, or cancel — all test the recorded flag)
    the user buffer holds exactly the bytes it held before the call; and the same for EVERY exit of
    put_vard / put_vard_all (success, NC_ETYPE_MISMATCH, NC_EIOMISMATCH, the three zero-length
    forms, independent or collective), whose in-place swap and swap-back count primitive elements
    (`bnelems`), not instances of the buffer type. -/
theorem user_buffer_restored :
    (∀ (api : Api) (h : Hint) (r : Req) (buf : List UInt8) (nelems : Int) (esize : Nat),
      nelems.toNat * esize ≤ buf.length →
      ∃ b, duringIO api h r buf nelems esize = some b ∧ afterExit (swapFlag api h r) b nelems esize = buf) ∧
    (∀ (h : Hint) (a : VardArgs) (buf : List UInt8),
      (∀ bc bn c, vardPre a = .go bc bn c → bn.toNat * a.xsz ≤ buf.length) →
      (putVard h a buf).after = buf) :=
  ⟨api_buffer_restored, vard_put_restores⟩

/-- the exits of put_vard that do no buffer work: the error code, the caller's buffer is not even
    temporarily altered, MPI-IO never sees it, and only a collective call goes on to the (zero-length)
    MPI-IO call -/
theorem vard_put_error_exits (h : Hint) (a : VardArgs) (buf : List UInt8) :
    (∀ e, vardPre a = .error e → putVard h a buf = vardNoWork a e buf) ∧
    (vardPre a = .zero → putVard h a buf = vardNoWork a NC_NOERR buf) ∧
    (∀ e, (vardNoWork a e buf).during = buf ∧ (vardNoWork a e buf).after = buf ∧
          (vardNoWork a e buf).xbufIsBuf = false ∧ (vardNoWork a e buf).ioCalled = a.coll) ∧
    (a.ftypeMatches = false → a.filetypeNull = false → a.filetypeSize ≠ 0 → vardPre a = .error NC_ETYPE_MISMATCH) ∧
    (a.filetypeNull = false → a.filetypeSize ≠ 0 → a.ftypeMatches = true → a.buftypeNull = false → a.bufcount ≠ 0 →
       a.fnelems ≠ a.perType * a.bufcount → vardPre a = .error NC_EIOMISMATCH) := by
  refine ⟨?_, ?_, ?_, ?_, ?_⟩
  · intro e he; simp [putVard, he]
  · intro he; simp [putVard, he]
  · intro e; simp [vardNoWork]
  · intro h1 h2 h3; simp [vardPre, h1, h2, h3]
  · intro h1 h2 h3 h4 h5 h6; simp [vardPre, h1, h2, h3, h4, h5, h6]

theorem else_of_ite_eq {α : Type} {c : Prop} [Decidable c] {x y v : α}
    (h : (if c then x else y) = v) (hx : x ≠ v) : y = v := by
  by_cases hc : c
  · rw [if_pos hc] at h; exact absurd h hx
  · rwa [if_neg hc] at h

theorem vardPre_go_buftype {a : VardArgs} {bc bn : Int} {c : Bool} (hp : vardPre a = .go bc bn c)
    (hb : a.buftypeNull = false) : bn = a.perType * a.bufcount ∧ bc = a.bufcount := by
  simp only [vardPre, hb, Bool.false_eq_true, if_false] at hp
  -- none of the five earlier exits ends in `.go`
  have hp := else_of_ite_eq hp nofun
  have hp := else_of_ite_eq hp (by split <;> nofun)
  have hp := else_of_ite_eq hp nofun
  have hp := else_of_ite_eq hp nofun
  have hp := else_of_ite_eq hp nofun
  cases hp
  exact ⟨rfl, rfl⟩

/-- the write path of put_vard is the decision of `usesUserBuf .putVard` on the request
    (need_convert, need_swap, buftype_is_contig, filetype_size): same buffer handed to MPI-IO, same
    contents during the I/O, same swap-back — with the element count `bnelems = perType · bufcount`;
    and the count handed to MPI-IO is `bufcount` (instances of buftype) when the caller's buffer is
    used, `bnelems` when a packed copy is. -/
theorem vard_put_agrees (h : Hint) (a : VardArgs) (buf : List UInt8) (bc bn : Int) (c : Bool)
    (hp : vardPre a = .go bc bn c) (hbc : bc ≠ 0) :
    let r : Req := ⟨a.needConvert, a.needSwap, c, false, a.filetypeSize⟩
    let o := putVard h a buf
    o.err = NC_NOERR ∧ o.ioCalled = true ∧
    o.xbufIsBuf = usesUserBuf .putVard h r ∧
    some o.during = duringIO .putVard h r buf bn a.xsz ∧
    o.after = afterExit (swapFlag .putVard h r) o.during bn a.xsz ∧
    o.mpiCount = (if o.xbufIsBuf then bc else bn) ∧
    (a.buftypeNull = false → bn = a.perType * a.bufcount ∧ bc = a.bufcount) := by
  have hz : (bc == 0) = false := by simpa using hbc
  simp only [putVard_go h a buf hp, hz, duringIO_eq, swapFlag, Bool.false_eq_true, if_false, true_and]
  exact vardPre_go_buftype hp

/-- put_vard followed by get_vard of the same bytes (contiguous buffer type, no type conversion):
    whatever the hint decided on the write side (in place or packed copy), the bytes on the wire are
    the element-wise swap of the caller's buffer, and the read returns the original buffer. -/
theorem vard_get_roundtrip (a : VardArgs) (buf scratch : List UInt8) (bc bn : Int)
    (hp : vardPre a = .go bc bn true) (hbc : bc ≠ 0)
    (hlen : bn.toNat * a.xsz ≤ buf.length) :
    (getVard a scratch (putVardWire a bn buf)).after = buf ∧
    (∀ h, (putVard h a buf).xbufIsBuf = true → (putVard h a buf).during = putVardWire a bn buf) := by
  have hz : (bc == 0) = false := by simpa using hbc
  constructor
  · simp only [getVard, hp, hz]
    exact afterExit_involutive a.needSwap buf bn a.xsz hlen
  · intro h
    rw [putVard_go h a buf hp]
    intro (hu : usesUserBuf .putVard h _ = true)
    show afterExit (usesUserBuf .putVard h _ && a.needSwap) buf bn a.xsz = _
    rw [hu]
    rfl

/-- what the code comment promises for a filetype of size 0 ("zero-length request"): NC_NOERR, no
    buffer work, no MPI error -/
def vard_get_zero_size_Statement : Prop :=
  ∀ (a : VardArgs) (buf wire : List UInt8), a.filetypeNull = false → a.filetypeSize = 0 →
    getVard a buf wire = vardNoWork a NC_NOERR buf

/-- finding vard-zero-size-filetype-uninitialized: `filetype_size` is read before it is assigned on
    this exit; with a non-zero indeterminate value get_vard goes on to ncmpio_unpack_xbuf with
    etype = MPI_DATATYPE_NULL and xbuf = NULL (observed: MPI_ERR_TYPE in MPI_Type_size, fatal) -/
theorem vard_get_zero_size_counterexample : ¬ vard_get_zero_size_Statement := by
  intro h
  have := h { filetypeNull := false, filetypeSize := 0, fnelems := 0, ftypeMatches := true, buftypeNull := false,
              bufcount := 8, perType := 1, contig := true, needConvert := false, needSwap := true, xsz := 8,
              coll := true, uninitSize := 1 } [] [] rfl rfl
  simp [getVard, vardPre, vardNoWork] at this

/-- `vard_get_zero_size_Statement` holds whenever the indeterminate value happens to be 0 (and always
    for put_vard as far as the caller's buffer is concerned: `vard_put_restores` has no such hypothesis) -/
theorem vard_get_zero_size_partial (a : VardArgs) (buf wire : List UInt8)
    (h1 : a.filetypeNull = false) (h2 : a.filetypeSize = 0) (h3 : a.uninitSize = 0) :
    getVard a buf wire = vardNoWork a NC_NOERR buf := by
  simp [getVard, vardPre, h1, h2, h3]

/-- the exits of get_vard that do no buffer work leave the caller's buffer untouched -/
theorem vard_get_error_exits (a : VardArgs) (buf wire : List UInt8) :
    (∀ e, vardPre a = .error e → getVard a buf wire = vardNoWork a e buf) ∧
    (vardPre a = .zero → getVard a buf wire = vardNoWork a NC_NOERR buf) := by
  constructor
  · intro e he; simp [getVard, he]
  · intro he; simp [getVard, he]

/-- the in-place swap decision, spelled out: with the default hint the user buffer is swapped in
    place only above NC_BYTE_SWAP_BUFFER_SIZE, never with hint "disable", always (when nothing else
    forces a copy) with hint "enable" -/
theorem in_place_swap_rule (r : Req) (hs : r.needSwap = true) (hc : r.needConvert = false)
    (hcont : r.contig = true) (him : r.imap = false) :
    (usesUserBuf .blockingPut .auto r = decide (r.nbytes > 4096)) ∧
    (usesUserBuf .iput .auto r = decide (r.nbytes > 4096)) ∧
    (usesUserBuf .iputVarn .auto r = decide (r.nbytes > 4096)) ∧
    (usesUserBuf .blockingPut .disable r = false) ∧ (usesUserBuf .iput .disable r = false) ∧
    (usesUserBuf .blockingPut .enable r = true) ∧ (usesUserBuf .iput .enable r = true) ∧
    (∀ h, usesUserBuf .bput h r = false) := by
  -- every decision is `can_swap_in_place` with need_swap set; a bput always copies
  simp [usesUserBuf, canSwapInPlace, hs, hc, hcont, him, NC_BYTE_SWAP_BUFFER_SIZE]
  -- left: `¬ nbytes ≤ 4096` against `nbytes > 4096`
  by_cases h : r.nbytes ≤ 4096 <;> simp [h] <;> omega

example : ∃ b, duringIO .iput .auto ⟨false, true, true, false, 8⟩ [1, 2, 3, 4, 5, 6, 7, 8] 2 4 = some b := ⟨_, rfl⟩
example : inSwapn [1, 2, 3, 4, 5, 6, 7, 8] 2 4 = [4, 3, 2, 1, 8, 7, 6, 5] := by decide

def SInv (s : S) : Prop :=
  match s.abuf with
  | none => bputs s.pend = []
  | some a => AInv a s.pend

inductive Op
  | attach (n : Int) | detach
  | bput (h : Nat) (nbytes : Int) | iput (h : Nat) (nbytes : Int)
  | complete (hs : List Nat) | cancel (hs : List Nat) | cancelAll

/-- the error code of attach / detach / bput is dropped here -/
def step (s : S) : Op → S
  | .attach n => (s.attach n).1
  | .detach => s.detach.1
  | .bput h n => (s.bput h n).1
  | .iput h n => s.iput h n
  | .complete hs => s.complete hs
  | .cancel hs => s.cancel hs
  | .cancelAll => s.cancelAll

/-- request sizes are positive (zero-length requests return NC_REQ_NULL before the allocator) -/
def wf : Op → Prop
  | .bput _ n => 0 < n
  | .iput _ n => 0 < n
  | _ => True

def run : S → List Op → S
  | s, [] => s
  | s, op :: ops => run (step s op) ops

theorem step_inv (s : S) (h : SInv s) (op : Op) (hw : wf op) : SInv (step s op) := by
  obtain ⟨_ | a, pend⟩ := s
  · -- no buffer attached: no buffered put is pending
    replace h : bputs pend = [] := h
    cases op with
    | attach n =>
      simp only [step, S.attach]
      split
      · exact h
      · exact ainv_empty h (Int.le_of_lt (Int.not_le.mp ‹_›))
    | iput _ n => exact (bputs_append pend _).trans h
    | complete hs | cancel hs =>
      show bputs (pend.filter _) = []
      rw [bputs_filter, h]
      rfl
    | cancelAll => rfl
    | _ => exact h
  · replace h : AInv a pend := h
    cases op with
    | attach n => simp only [step, S.attach]; split <;> exact h
    | detach =>
      simp only [step, S.detach]
      split
      · exact h
      · rename_i hany
        exact List.filter_eq_nil_iff.mpr fun p hp hc => hany (List.any_eq_true.mpr ⟨p, hp, hc⟩)
    | bput hh n =>
      simp only [step, S.bput]
      split
      · exact h
      · exact malloc_inv h hh hw ‹_›
    | iput hh n => exact ⟨h.tail_eq, h.sum, h.last, (bputs_append pend _) ▸ h.shape, h.cap⟩
    | complete hs =>
      simp only [step, S.complete]
      split
      · -- no write request completed: nothing is marked, abuf_coalesce is not called
        rename_i hd
        have hnil := List.isEmpty_iff.mp hd
        have hall : pend.filter (fun p => !hs.contains p.h) = pend :=
          List.filter_eq_self.mpr fun p hp => by simpa using List.filter_eq_nil_iff.mp hnil p hp
        rw [hnil, releaseAll_nil, hall]
        exact h
      · exact release_coalesce_inv h _
    | cancel hs => exact release_coalesce_inv h _
    | cancelAll => exact ainv_empty rfl h.alloc_nonneg

/-- `abuf_inv`: after EVERY history of attach / detach / bput / iput / wait / cancel (any handles,
    any order, any sizes): tail = number of live table entries, size_used = Σ req_size of the live
    entries, the last live entry is in use (tail = 1 + last occupied index), the used entries are
    exactly the pending buffered puts (in posting order, at their abuf_index, with their size),
    size_used ≤ size_allocated; without an attached buffer no buffered put is pending. -/
theorem abuf_inv (ops : List Op) : ∀ (s : S), SInv s → (∀ op ∈ ops, wf op) → SInv (run s ops) := by
  induction ops with
  | nil => exact fun s h _ => h
  | cons op ops ih =>
    intro s h hw
    have hw := List.forall_mem_cons.mp hw
    exact ih _ (step_inv s h op hw.1) hw.2

theorem abuf_inv_init : SInv {} := by simp [SInv, bputs]

/-- `einsuffbuf_iff`: a buffered put is refused with NC_EINSUFFBUF exactly when the space the
    allocator believes free (size_allocated − reported usage) is smaller than the request -/
theorem einsuffbuf_iff (s : S) (a : A) (ha : s.abuf = some a) (h : Nat) (n : Int) :
    (s.bput h n).2 = NC_EINSUFFBUF ↔ a.sizeAllocated - a.sizeUsed < n := by
  simp only [S.bput, ha]
  split
  · exact iff_of_true rfl ‹_›
  · exact iff_of_false (show NC_NOERR ≠ NC_EINSUFFBUF by decide) ‹_›

/-- the reported usage never under-reports: it is at least the bytes of the pending buffered puts,
    in every reachable state -/
theorem usage_ge_pending (s : S) (h : SInv s) (a : A) (ha : s.abuf = some a) :
    pendingBytes s.pend ≤ a.sizeUsed := by
  simp only [SInv, ha] at h
  rw [pendingBytes_eq, h.sum, shape_sum h.shapeI]
  have := sumSizes_nonneg (a.table.filter (!·.isUsed)) fun t ht => shape_nonneg h.shapeI t (List.mem_filter.mp ht).1
  omega

/-- the property's sentence: reported usage = bytes of the pending buffered puts -/
def usage_eq_pending_Statement : Prop :=
  ∀ ops : List Op, (∀ op ∈ ops, wf op) → ∀ a, (run {} ops).abuf = some a → a.sizeUsed = pendingBytes (run {} ops).pend

/-- F5: attach 32 bytes, bput A (16), bput B (16), wait(A): usage stays 32 although only B (16
    bytes) is pending — the allocator reclaims space only from the tail -/
def f5History : List Op := [.attach 32, .bput 0 16, .bput 1 16, .complete [0]]

theorem f5History_wf : ∀ op ∈ f5History, wf op := by
  intro op hop
  simp only [f5History, List.mem_cons, List.not_mem_nil, or_false] at hop
  rcases hop with rfl | rfl | rfl | rfl <;> simp [wf]

theorem usage_eq_pending_counterexample : ¬ usage_eq_pending_Statement := by
  intro h
  have := h f5History f5History_wf ⟨32, 32, 2, [⟨false, 16⟩, ⟨true, 16⟩]⟩ (by decide)
  revert this
  decide

/-- the property's sentence about refusal: refused exactly when the space not held by pending
    buffered puts is too small -/
def einsuffbuf_spec_Statement : Prop :=
  ∀ ops : List Op, (∀ op ∈ ops, wf op) → ∀ a, (run {} ops).abuf = some a → ∀ (h : Nat) (n : Int), 0 < n →
    (((run {} ops).bput h n).2 = NC_EINSUFFBUF ↔ a.sizeAllocated - pendingBytes (run {} ops).pend < n)

theorem einsuffbuf_spec_counterexample : ¬ einsuffbuf_spec_Statement := by
  intro h
  have := h f5History f5History_wf ⟨32, 32, 2, [⟨false, 16⟩, ⟨true, 16⟩]⟩ (by decide) 2 16 (by decide)
  revert this
  decide

/-- no completed-but-unreclaimed entry below tail -/
def NoHoles (s : S) : Prop :=
  match s.abuf with
  | none => True
  | some a => ∀ t ∈ a.table, t.isUsed = true

/-- the completed buffered puts are the most recently posted ones: there is a threshold index
    such that exactly the pending buffered puts at or above it are named -/
def lifoSel (s : S) (hs : List Nat) : Prop :=
  ∃ k : Int, ∀ p ∈ bputs s.pend, (hs.contains p.h = true ↔ k ≤ p.abufIndex)

def lifo (s : S) : Op → Prop
  | .complete hs => lifoSel s hs
  | .cancel hs => lifoSel s hs
  | _ => True

def LifoRun : S → List Op → Prop
  | _, [] => True
  | s, op :: ops => wf op ∧ lifo s op ∧ LifoRun (step s op) ops

/-- with no holes, the reported usage is exactly the bytes of the pending buffered puts -/
theorem usage_of_noHoles (s : S) (h : SInv s) (hn : NoHoles s) (a : A) (ha : s.abuf = some a) :
    a.sizeUsed = pendingBytes s.pend := by
  simp only [SInv, ha] at h
  simp only [NoHoles, ha] at hn
  rw [pendingBytes_eq, h.sum, shape_sum h.shapeI, List.filter_eq_nil_iff.mpr fun t ht => by simp [hn t ht]]
  exact Int.add_zero _

theorem lifo_step (s : S) (h : SInv s) (hn : NoHoles s) (op : Op) (hl : lifo s op) :
    NoHoles (step s op) := by
  obtain ⟨_ | a, pend⟩ := s
  · -- no buffer attached: only attach creates one, with an empty table
    cases op with
    | attach n =>
      simp only [step, S.attach]
      split
      · exact hn
      · exact nofun
    | _ => trivial
  · replace h : AInv a pend := h
    replace hn : ∀ t ∈ a.table, t.isUsed = true := hn
    cases op with
    | attach n => simp only [step, S.attach]; split <;> exact hn
    | detach =>
      simp only [step, S.detach]
      split
      · exact hn
      · trivial
    | bput hh n =>
      simp only [step, S.bput]
      split
      · exact hn
      · intro t ht
        rcases List.mem_append.mp ht with ht | ht
        · exact hn t (List.mem_of_mem_take ht)
        · rw [List.mem_singleton.mp ht]
    | iput hh n => exact hn
    | complete hs =>
      obtain ⟨k, hk⟩ := hl
      simp only [step, S.complete]
      split
      · rename_i hd
        rw [List.isEmpty_iff.mp hd, releaseAll_nil]
        exact hn
      · exact release_coalesce_noHoles h hn _ k hk
    | cancel hs =>
      obtain ⟨k, hk⟩ := hl
      exact release_coalesce_noHoles h hn _ k hk
    | cancelAll => exact nofun

/-- `usage_eq_pending_partial`: in every history — of any length, with any sizes, with attach /
    detach in between — in which each wait or cancel names the most recently posted buffered puts
    (reverse posting order; "all at once" is the threshold 0), the reported usage equals the bytes
    of the pending buffered puts after every step, and a buffered put is refused exactly when the
    space not held by pending buffered puts is too small. -/
theorem usage_eq_pending_partial (ops : List Op) : ∀ (s : S), SInv s → NoHoles s → LifoRun s ops →
    SInv (run s ops) ∧ NoHoles (run s ops) ∧
    (∀ a, (run s ops).abuf = some a → a.sizeUsed = pendingBytes (run s ops).pend ∧
      ∀ (h : Nat) (n : Int), (((run s ops).bput h n).2 = NC_EINSUFFBUF ↔
                              a.sizeAllocated - pendingBytes (run s ops).pend < n)) := by
  induction ops with
  | nil =>
    intro s h hn _
    refine ⟨h, hn, fun a ha => ?_⟩
    have hu := usage_of_noHoles s h hn a ha
    exact ⟨hu, fun hh n => hu ▸ einsuffbuf_iff s a ha hh n⟩
  | cons op ops ih =>
    intro s h hn hl
    exact ih (step s op) (step_inv s h op hl.1) (lifo_step s h hn op hl.2.1) hl.2.2

/-- non-vacuity: post three buffered puts, complete the last two, post another, complete all -/
example : LifoRun {} [.attach 64, .bput 0 16, .bput 1 16, .bput 2 16, .complete [2, 1], .bput 3 32, .iput 4 8,
                      .complete [0, 3, 4]] := by
  -- per call: `wf`, `lifo` (the threshold index of a wait), the rest
  refine ⟨trivial, trivial, ?_⟩                                -- attach 64
  refine ⟨(by decide : (0 : Int) < 16), trivial, ?_⟩           -- bput 0, at index 0
  refine ⟨(by decide : (0 : Int) < 16), trivial, ?_⟩           -- bput 1, at index 1
  refine ⟨(by decide : (0 : Int) < 16), trivial, ?_⟩           -- bput 2, at index 2
  refine ⟨trivial, ⟨1, by decide⟩, ?_⟩                         -- wait for 2 and 1: the requests at index ≥ 1
  refine ⟨(by decide : (0 : Int) < 32), trivial, ?_⟩           -- bput 3, at index 1 again
  refine ⟨(by decide : (0 : Int) < 8), trivial, ?_⟩            -- iput 4
  exact ⟨trivial, ⟨0, by decide⟩, trivial⟩                     -- wait for everything: index ≥ 0

def obligations : List String := [
  "swapn_involutive", "swapn_length", "usesUserBuf_no_convert", "api_buffer_restored", "vard_put_restores", "user_buffer_restored",
  "vard_put_error_exits", "vard_put_agrees", "vard_get_roundtrip", "vard_get_error_exits", "vard_get_zero_size_counterexample", "vard_get_zero_size_partial", "in_place_swap_rule",
  "abuf_inv", "abuf_inv_init", "einsuffbuf_iff", "usage_ge_pending",
  "usage_eq_pending_counterexample", "einsuffbuf_spec_counterexample", "usage_eq_pending_partial"
]
end PnVerif.Props.C13
