import PnVerif.Model.BBLog
/-
  C12 — the burst-buffer driver is transparent: the part that is logic (the flush rounds).

  For every log (any mix of valid and cancelled entries, any sizes) and every buffer size at least
  as large as the largest entry:
    * the rounds of the replay pass, concatenated, are exactly the log — every valid entry is
      replayed exactly once, in log order, none is lost or duplicated (`rounds_partition`);
    * the data of each round fits the buffer (`round_fits`);
    * every round makes progress, so the loop terminates within `length` iterations
      (`takeRound_progress`, `rounds_partition` needs no more fuel than the log length);
    * the number of rounds executed equals the `nrounds` the counting pass announced to the other
      processes, so `nrounds_all` never underflows and all processes perform the same number of
      collective waits (`rounds_eq_count`).
-/
namespace PnVerif.Props.C12
open PnVerif.BBLog

theorem takeRound_append (buf : Nat) (es : List Entry) (used : Nat) :
    (takeRound buf es used).1 ++ (takeRound buf es used).2 = es := by
  fun_induction takeRound buf es used with
  | case1 => rfl
  | case2 => rfl
  | case3 sz rest used _ r ih => exact congrArg (_ :: ·) ih
  | case4 valid sz rest used _ r ih => exact congrArg (_ :: ·) ih

theorem validSizes_cons (v : Bool) (sz : Nat) (es : List Entry) :
    validSizes ((v, sz) :: es) = if v then sz :: validSizes es else validSizes es := by
  cases v <;> rfl

theorem takeRound_fits (buf : Nat) (es : List Entry) (used : Nat) (h : used ≤ buf) :
    used + sum (validSizes (takeRound buf es used).1) ≤ buf := by
  fun_induction takeRound buf es used with
  | case1 => exact h
  | case2 => exact h
  | case3 sz rest used hfit r ih =>
    have : used + sz + sum (validSizes r.1) ≤ buf := ih (by omega)
    rw [validSizes_cons, if_pos rfl, sum]
    omega
  | case4 valid sz rest used hv r ih =>
    rw [validSizes_cons, if_neg hv]
    exact ih h

theorem takeRound_snd_length_le (buf : Nat) (es : List Entry) (used : Nat) :
    (takeRound buf es used).2.length ≤ es.length := by
  have := congrArg List.length (takeRound_append buf es used)
  rw [List.length_append] at this
  omega

/-- a round starting with an empty buffer consumes at least one entry, provided every valid entry
    fits the buffer (bufsize ≥ maxentrysize) -/
theorem takeRound_progress (buf : Nat) (es : List Entry) (hne : es ≠ [])
    (hfit : ∀ e ∈ es, e.1 = true → e.2 ≤ buf) : (takeRound buf es 0).2.length < es.length := by
  cases es with
  | nil => exact absurd rfl hne
  | cons e rest =>
    obtain ⟨valid, sz⟩ := e
    cases valid with
    | false => exact Nat.lt_succ_of_le (takeRound_snd_length_le buf rest 0)
    | true =>
      have : ¬ sz + 0 > buf := Nat.not_lt.mpr (hfit _ List.mem_cons_self rfl)
      simp only [takeRound, if_true, if_neg this]
      exact Nat.lt_succ_of_le (takeRound_snd_length_le buf rest _)

theorem execRounds_succ (buf fuel : Nat) {es : List Entry} (hne : es ≠ []) :
    execRounds buf (fuel + 1) es = (takeRound buf es 0).1 :: execRounds buf fuel (takeRound buf es 0).2 := by
  cases es with
  | nil => exact absurd rfl hne
  | cons e rest => rfl

/-- induction along the outer loop: with fuel ≥ length of the log and every valid entry fitting the
    buffer, each round leaves a shorter log with the same two properties -/
theorem rounds_induction {buf : Nat} {motive : Nat → List Entry → Prop} (nil : ∀ fuel, motive fuel [])
    (round : ∀ fuel es, es ≠ [] → (∀ e ∈ es, e.1 = true → e.2 ≤ buf) →
      motive fuel (takeRound buf es 0).2 → motive (fuel + 1) es)
    (fuel : Nat) (es : List Entry) (hf : es.length ≤ fuel) (hfit : ∀ e ∈ es, e.1 = true → e.2 ≤ buf) :
    motive fuel es := by
  induction fuel generalizing es with
  | zero => rw [List.length_eq_zero_iff.mp (Nat.le_zero.mp hf)]; exact nil 0
  | succ fuel ih =>
    by_cases hne : es = []
    · rw [hne]; exact nil _
    · have hprog := takeRound_progress buf es hne hfit
      refine round fuel es hne hfit (ih _ (by omega) fun e he => hfit e ?_)
      rw [← takeRound_append buf es 0]
      exact List.mem_append_right _ he

theorem execRounds_nil (buf fuel : Nat) : execRounds buf fuel [] = [] := by
  cases fuel <;> rfl

/-- an empty log: no replay round, but `nrounds` = 1: the process still joins one (empty) collective
    wait — this is the `while (nrounds_all--)` tail of the C function -/
theorem empty_log (buf fuel : Nat) : execRounds buf fuel [] = [] ∧ nrounds buf [] = 1 :=
  ⟨execRounds_nil buf fuel, rfl⟩

/-- **every entry replayed exactly once, in order**: with fuel ≥ length of the log the rounds
    concatenate to the whole log -/
theorem rounds_partition (buf : Nat) (fuel : Nat) (es : List Entry) (hf : es.length ≤ fuel)
    (hfit : ∀ e ∈ es, e.1 = true → e.2 ≤ buf) : (execRounds buf fuel es).flatten = es := by
  refine rounds_induction (motive := fun fuel es => (execRounds buf fuel es).flatten = es)
    (fun fuel => ?_) (fun fuel es hne _ ih => ?_) fuel es hf hfit
  · rw [execRounds_nil]; rfl
  · rw [execRounds_succ buf fuel hne, List.flatten_cons, ih, takeRound_append]

theorem round_fits (buf : Nat) (es : List Entry) :
    sum (validSizes (takeRound buf es 0).1) ≤ buf := by
  have := takeRound_fits buf es 0 (Nat.zero_le _)
  omega

/-- the counting pass and the replay pass use the same arithmetic: the overflows counted from a
    position = (one, for the break that ends the current round, plus the overflows counted from the
    start of the next round), or zero if the round reaches the end of the log -/
theorem count_takeRound (buf : Nat) (es : List Entry) (used : Nat)
    (hfit : ∀ e ∈ es, e.1 = true → e.2 ≤ buf) :
    countOverflows buf es used =
      (match (takeRound buf es used).2 with
       | [] => 0
       | r => 1 + countOverflows buf r 0) := by
  fun_induction takeRound buf es used with
  | case1 => rfl
  | case2 sz rest used hfull =>
    -- break here: the next round starts with this entry, which fits an empty buffer
    have : ¬ sz + 0 > buf := Nat.not_lt.mpr (hfit _ List.mem_cons_self rfl)
    simp only [countOverflows, hfull, this, if_true, if_false, Nat.zero_add]
  | case3 sz rest used hfull r ih =>
    simp only [countOverflows, hfull, if_true, if_false]
    exact ih (List.forall_mem_cons.mp hfit).2
  | case4 valid sz rest used hv r ih =>
    simp only [countOverflows, hv]
    exact ih (List.forall_mem_cons.mp hfit).2

/-- **all processes agree on the number of collective waits**: the replay pass executes exactly the
    `nrounds` the counting pass computed (and announced through MPI_Allreduce(MAX)) -/
theorem rounds_eq_count (buf : Nat) (fuel : Nat) (es : List Entry) (hne : es ≠ []) (hf : es.length ≤ fuel)
    (hfit : ∀ e ∈ es, e.1 = true → e.2 ≤ buf) : (execRounds buf fuel es).length = nrounds buf es := by
  refine rounds_induction (motive := fun fuel es => es ≠ [] → (execRounds buf fuel es).length = nrounds buf es)
    (fun _ h => absurd rfl h) (fun fuel es hne hfit ih _ => ?_) fuel es hf hfit hne
  rw [execRounds_succ buf fuel hne, List.length_cons, nrounds, count_takeRound buf es 0 hfit]
  cases hr : (takeRound buf es 0).2 with
  | nil => rw [execRounds_nil]; rfl
  | cons r0 rs =>
    rw [hr] at ih
    rw [ih (List.cons_ne_nil _ _), nrounds]
    exact Nat.add_comm ..

/-- the valid entries replayed, in order, are exactly the valid entries of the log -/
theorem replayed_exactly_once (buf : Nat) (es : List Entry) (hfit : ∀ e ∈ es, e.1 = true → e.2 ≤ buf) :
    ((execRounds buf es.length es).flatten).filter (·.1) = es.filter (·.1) := by
  rw [rounds_partition buf es.length es (Nat.le_refl _) hfit]

/-- non-vacuity: buffer 10, a cancelled entry in the middle, three rounds -/
example : execRounds 10 5 [(true, 6), (true, 4), (false, 100), (true, 7), (true, 9)]
    = [[(true, 6), (true, 4), (false, 100)], [(true, 7)], [(true, 9)]] := by decide
example : nrounds 10 [(true, 6), (true, 4), (false, 100), (true, 7), (true, 9)] = 3 := by decide

def obligations : List String := [
  "takeRound_append", "takeRound_fits", "takeRound_progress", "rounds_partition", "round_fits",
  "count_takeRound", "rounds_eq_count", "empty_log", "replayed_exactly_once"
]
end PnVerif.Props.C12
