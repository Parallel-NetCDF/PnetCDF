import PnVerif.Lemmas.Mode
/-
  C14 — API mode state machine and error precedence.

  Model     PnVerif/Model/Mode.lean   two flag words (dispatcher PNC.flag, driver NC.flags) + what the
                                      mode tests read; `step` transcribes the ORDER of tests of both layers
  Spec      PnVerif/Spec/ModeSpec.lean the documented automaton (define / collective / independent ×
                                      read-only × new) and ONE precedence-ordered rule table
  Tie       checks/c14.py: exhaustive call histories on the real library, raw flag words of both layers
            read back after every call and compared with the model's.

  `cfg : Cfg` says (1) whether `ncmpi_fill_var_rec` returns the error of its own tests (`repaired`) or
  drops it (`pinned`, the source as it is: defect F19) and (2) whether there is more than one process
  (`pinnedMulti`).  Every theorem that does not mention a particular `cfg` holds for all of them.
  Definitions used in the statements (`ModeInv`, `Start`, `specRun`, `droppedCheck`, `flushQuirk`) are
  in Lemmas/Mode.lean.
-/
namespace PnVerif.Props.C14
open PnVerif.Mode PnVerif.ModeSpec PnVerif.ModeLemmas

/-- one step preserves the invariant (both layers, every API kind, every argument class) -/
theorem inv_step (cfg : Cfg) (s : State) (c : Call) (h : ModeInv s) : ModeInv (step cfg s c).st := by
  rcases reach_cases h with rfl | hc
  · exact inv_closed
  have ho : s.opened = true := by cases hc <;> rfl
  cases c
  -- the calls that change the mode, on each shape of the mode bits.  The case the invariant is built
  -- for: redef from independent mode clears the driver's INDEP bit and leaves the dispatcher's stale.
  case enddef | enddefArgs | redef | beginIndep | endIndep | close | abort =>
    have bp := h.bp
    have ab := h.ab
    have ro := h.ro ho
    clear h ho
    cases hc
    all_goals (dsimp only at bp ab ro)
    all_goals (mode_simp <;> first | exact inv_closed | (constructor <;> grind))
  -- the calls that change the queues or the attached buffer: at every exit the state is the old one
  -- (`exact h`), or an update of it that still has its shape (`by constructor` finds the shape by
  -- unification) with the three conditions on the queues to be checked
  case post | wait | cancel | attach | detach =>
    have bp := h.bp
    have ab := h.ab
    have ro := h.ro ho
    clear ho
    cases hc
    all_goals (dsimp only at bp ab ro)
    all_goals try cases ‹PostKind›
    all_goals mode_simp
    all_goals repeat' first | exact h | refine inv_ite (fun _ => ?_) (fun _ => ?_)
    all_goals refine inv_of_core (by constructor) ?_ ?_ ?_ <;> dsimp only
    all_goals grind
  -- every other call leaves what the invariant reads alone
  all_goals
    refine inv_of_view h ho ?_
    unfold step
    refine keeps_ite rfl ?_
    dsimp only [Drv.syncNumrecs, Drv.sync, Drv.hdrWrite, Drv.putAtt, Drv.renameAtt, Drv.copyAtt, Drv.delAtt,
      Drv.rename, Drv.fillVarRec]
    keeps_leaves

theorem inv_run (cfg : Cfg) (cs : List Call) : ∀ s, ModeInv s → ModeInv (run cfg s cs) := by
  induction cs with
  | nil => intro s h; exact h
  | cons c cs ih => intro s h; exact ih _ (inv_step cfg s c h)

/-- the invariant holds after every history from every start -/
theorem inv_all_histories (cfg : Cfg) (s0 : State) (h0 : Start s0) (cs : List Call) :
    ModeInv (run cfg s0 cs) := by
  exact inv_run cfg cs s0 (inv_start h0)

/-- `flags_agree`: after any history the dispatcher word and the driver word denote the same mode
    and the same permission — every mode test gives the same answer in both layers. -/
theorem flags_agree (cfg : Cfg) (s0 : State) (h0 : Start s0) (cs : List Call) :
    (run cfg s0 cs).opened = true →
      modeOf (run cfg s0 cs).d = modeOf (run cfg s0 cs).n ∧ (run cfg s0 cs).d.rdonly = (run cfg s0 cs).n.rdonly := by
  have h := inv_all_histories cfg s0 h0 cs
  generalize run cfg s0 cs = s at h ⊢
  intro ho
  cases core_of_inv s h ho <;> exact ⟨rfl, rfl⟩

/-- The bit-for-bit version of `flags_agree` is FALSE of the code (kept visible): -/
def flags_agree_bits_Statement : Prop :=
  ∀ (cfg : Cfg) (s0 : State), Start s0 → ∀ cs : List Call,
    (run cfg s0 cs).opened = true → (run cfg s0 cs).d = (run cfg s0 cs).n

/-- witness: create, enddef, begin_indep_data, redef — ncmpi_redef sets NC_MODE_DEF in PNC.flag
    without clearing NC_MODE_INDEP, while ncmpio_redef leaves independent mode; and NC_MODE_CREATE is
    never cleared in PNC.flag.  (Unobservable through the API: every dispatcher test reads DEF before
    INDEP and nothing reads the dispatcher's CREATE bit — that is `flags_agree` / `matches_spec`.) -/
theorem flags_agree_bits_counterexample : ¬ flags_agree_bits_Statement := by
  intro h
  have := h Cfg.pinned (created true) (Start.created true) [.enddef, .beginIndep, .redef] (by decide)
  revert this
  decide

/-- what does hold bit for bit -/
theorem flags_agree_bits_partial (cfg : Cfg) (s0 : State) (h0 : Start s0) (cs : List Call) :
    (run cfg s0 cs).opened = true →
      (run cfg s0 cs).d.rdonly = (run cfg s0 cs).n.rdonly ∧ (run cfg s0 cs).d.indef = (run cfg s0 cs).n.indef ∧
      ((run cfg s0 cs).n.indef = false → (run cfg s0 cs).d.indep = (run cfg s0 cs).n.indep) ∧
      ((run cfg s0 cs).n.create = true → (run cfg s0 cs).d.create = true) := by
  have h := inv_all_histories cfg s0 h0 cs
  generalize run cfg s0 cs = s at h ⊢
  intro ho
  exact ⟨h.rd ho, h.df ho, h.ind ho, h.dcr ho⟩

/-- `one_mode`: the driver word never has DEF and INDEP together, after any history; with
    `flags_agree` the file is in exactly one of define / collective / independent mode. -/
theorem one_mode (cfg : Cfg) (s0 : State) (h0 : Start s0) (cs : List Call) :
    ¬ ((run cfg s0 cs).n.indef = true ∧ (run cfg s0 cs).n.indep = true) := by
  have h := inv_all_histories cfg s0 h0 cs
  generalize run cfg s0 cs = s at h ⊢
  intro ⟨h1, h2⟩
  rcases reach_cases h with rfl | hc
  · exact Bool.noConfusion h1
  · cases hc with
    | data => exact Bool.noConfusion h1
    | define => exact Bool.noConfusion h2

/-- for the dispatcher word alone the statement is false (same witness as above) -/
def one_mode_dispatcher_Statement : Prop :=
  ∀ (cfg : Cfg) (s0 : State), Start s0 → ∀ cs : List Call,
    ¬ ((run cfg s0 cs).d.indef = true ∧ (run cfg s0 cs).d.indep = true)

theorem one_mode_dispatcher_counterexample : ¬ one_mode_dispatcher_Statement := by
  intro h
  exact h Cfg.pinned (created true) (Start.created true) [.enddef, .beginIndep, .redef] (by decide)

/-- the `assert`s of ncmpio_abort and ncmpio__enddef (`ncp->old != NULL` ⇒ not new, in define
    mode) can never fire -/
theorem driver_asserts_hold (cfg : Cfg) (s0 : State) (h0 : Start s0) (cs : List Call) :
    (run cfg s0 cs).old = true → (run cfg s0 cs).n.create = false ∧ (run cfg s0 cs).n.indef = true := by
  have h := inv_all_histories cfg s0 h0 cs
  generalize run cfg s0 cs = s at h ⊢
  intro hold
  rcases reach_cases h with rfl | hc
  · exact Bool.noConfusion hold
  · cases hc with
    | data => exact Bool.noConfusion hold
    | define nw => cases nw <;> first | exact Bool.noConfusion hold | exact ⟨rfl, rfl⟩

/-- One call against the rule table in a state of one of the two reachable shapes: unfold both
    sides (`mode_simp`); what is left, if anything, are two chains of the same tests on the argument
    classes, nested differently, which `grind` compares. -/
macro "spec_cases" : tactic => `(tactic|
  (cases ‹Call›
   all_goals try cases ‹PostKind›
   all_goals mode_simp
   all_goals grind))

theorem matches_spec_data (dr di dc recDef recCommit abuf : Bool) (nGet nPut nBput : Nat) (c : Call) :
    absOut (step Cfg.repaired (dataSt dr di dc recDef recCommit abuf nGet nPut nBput) c)
      = specStep (abs (dataSt dr di dc recDef recCommit abuf nGet nPut nBput)) c := by
  spec_cases

theorem matches_spec_define (nw di dc recDef recCommit abuf : Bool) (nGet nPut nBput : Nat) (c : Call) :
    absOut (step Cfg.repaired (defSt nw di dc recDef recCommit abuf nGet nPut nBput) c)
      = specStep (abs (defSt nw di dc recDef recCommit abuf nGet nPut nBput)) c := by
  spec_cases

/-- `matches_spec` (source with the missing return of ncmpi_fill_var_rec put back): in every
    reachable state, for every API kind and argument class, the two-layer model returns exactly
    the code the documented precedence table selects, moves to exactly the documented next mode,
    deletes the file exactly when documented.  Together with `inv_all_histories` this covers
    histories of every length. -/
theorem matches_spec (s : State) (h : ModeInv s) (c : Call) :
    absOut (step Cfg.repaired s c) = specStep (abs s) c := by
  rcases reach_cases h with rfl | hc
  · rfl
  · cases hc with
    | data => exact matches_spec_data ..
    | define => exact matches_spec_define ..

/-- the same statement about the source as it is -/
def matches_spec_pinned_Statement : Prop :=
  ∀ (s : State), ModeInv s → ∀ c : Call, absOut (step Cfg.pinned s c) = specStep (abs s) c

/-- FALSE (defect F19): right after ncmpi_create (define mode) `ncmpi_fill_var_rec` on a record
    variable returns NC_NOERR and writes the file; the documented result is NC_EINDEFINE. -/
theorem matches_spec_pinned_counterexample : ¬ matches_spec_pinned_Statement := by
  intro h
  have := h (created true) (inv_created true) (.fillVarRec .recv)
  revert this
  decide

/-- a second witness, independent data mode: NC_NOERR instead of NC_EINDEP -/
theorem matches_spec_pinned_counterexample_indep :
    (step Cfg.pinned (run Cfg.pinned (created true) [.enddef, .beginIndep]) (.fillVarRec .recv)).err = .noerr ∧
    (specStep (abs (run Cfg.pinned (created true) [.enddef, .beginIndep])) (.fillVarRec .recv)).err = .eindep := by
  decide

/-- and with an invalid varid the unchecked index is dereferenced (no NC code at all) -/
theorem matches_spec_pinned_counterexample_ub :
    (step Cfg.pinned (run Cfg.pinned (created true) [.enddef]) (.fillVarRec .bad)).err = .ub ∧
    (specStep (abs (run Cfg.pinned (created true) [.enddef])) (.fillVarRec .bad)).err = .enotvar := by
  decide

theorem pinned_eq_repaired (s : State) (c : Call) (hc : droppedCheck s c = false) :
    step Cfg.pinned s c = step Cfg.repaired s c := by
  cases c <;> try rfl
  rename_i v
  simp only [droppedCheck, Bool.and_eq_false_iff, bne_eq_false_iff_eq] at hc
  unfold step
  cases hc with
  | inl h => simp [h]
  | inr h => simp [h, Cfg.pinned, Cfg.repaired]

/-- `matches_spec_partial`: the source as it is agrees with the documentation on every call except
    a `ncmpi_fill_var_rec` whose own dispatcher tests found an error (which it then drops). -/
theorem matches_spec_partial (s : State) (h : ModeInv s) (c : Call) (hc : droppedCheck s c = false) :
    absOut (step Cfg.pinned s c) = specStep (abs s) c := by
  rw [pinned_eq_repaired s c hc]
  exact matches_spec s h c

/-- refinement over whole histories (repaired source): running the model and abstracting is the
    same as running the documented automaton (`specRun` = iterate `specStep`) -/
theorem refines_all_histories (s0 : State) (h0 : Start s0) (cs : List Call) :
    abs (run Cfg.repaired s0 cs) = specRun (abs s0) cs := by
  have h : ModeInv s0 := inv_start h0
  clear h0
  induction cs generalizing s0 with
  | nil => rfl
  | cons c cs ih =>
    simp only [run, specRun]
    rw [ih _ (inv_step _ s0 c h)]
    have := congrArg AOut.st (matches_spec s0 h c)
    simp only [absOut] at this
    rw [this]

/-- any call that returns an error, other than close and abort (which release the ncid whatever
    they return), has no effect at all, on one process or several -/
theorem error_is_noop (cfg : Cfg) (s : State) (h : ModeInv s) (c : Call)
    (hc : c ≠ .close ∧ c ≠ .abort) (hq : flushQuirk cfg s c = false) (he : (step cfg s c).err ≠ .noerr) :
    (step cfg s c).st = s ∧ (step cfg s c).wr = false ∧ (step cfg s c).del = false :=
  step_noop cfg s c hc he

/-- close and abort on an open reachable state never answer with a rejection (abort could, from
    `end_indep_data`, were DEF and INDEP ever set together) -/
theorem close_abort_not_rejected (cfg : Cfg) {s : State} (hc : Core s) (c : Call) (h : c = .close ∨ c = .abort) :
    isRejection (step cfg s c).err = false := by
  rcases h with rfl | rfl <;> cases hc <;> mode_simp <;> grind

/-- `rejected_is_noop`: a call answered with a mode / permission / bad-id rejection leaves both
    flag words, the queues and the buffer untouched, reaches no function that writes the file and
    does not delete it.  Holds for the source as it is and for the repaired one. -/
theorem rejected_is_noop (cfg : Cfg) (s : State) (h : ModeInv s) (c : Call)
    (hr : isRejection (step cfg s c).err = true) :
    (step cfg s c).st = s ∧ (step cfg s c).wr = false ∧ (step cfg s c).del = false := by
  by_cases hc : c ≠ .close ∧ c ≠ .abort
  · refine error_is_noop cfg s h c hc rfl fun he => ?_
    rw [he] at hr
    exact Bool.noConfusion hr
  · rcases reach_cases h with rfl | hcore
    · exact ⟨rfl, rfl, rfl⟩
    · have hca : c = .close ∨ c = .abort := by
        cases c <;> first | exact .inl rfl | exact .inr rfl | exact absurd ⟨Call.noConfusion, Call.noConfusion⟩ hc
      rw [close_abort_not_rejected cfg hcore c hca] at hr
      exact Bool.noConfusion hr

/-- the full statement for several processes -/
def error_is_noop_multi_Statement : Prop :=
  ∀ (s : State), ModeInv s → ∀ c : Call, c ≠ .close ∧ c ≠ .abort →
    (step Cfg.pinnedMulti s c).err ≠ .noerr →
    (step Cfg.pinnedMulti s c).st = s ∧ (step Cfg.pinnedMulti s c).wr = false

/-- … holds since the `extract_reqs` repair (/repo commit 12532099).  Before it this statement was refuted
    (`error_is_noop_multi_counterexample`: one pending iput, then `ncmpi_put_varn_int_all` with varid
    NC_GLOBAL on 2 processes returned NC_EGLOBAL and had written the pending iput); the same history is
    still replayed on 2 processes on every run and must now leave the request pending. -/
theorem error_is_noop_multi : error_is_noop_multi_Statement := by
  intro s h c hc he
  have := error_is_noop Cfg.pinnedMulti s h c hc rfl he
  exact ⟨this.1, this.2.1⟩

/-- the former witness, now a regression example: the failed call leaves the iput pending and writes nothing -/
example :
    let s := run Cfg.pinnedMulti (openedFile true true) [.post .iput .fixed false false false false]
    (step Cfg.pinnedMulti s (.rw true true .global false false true false)).st = s ∧
    (step Cfg.pinnedMulti s (.rw true true .global false false true false)).wr = false := by decide

/-- on several processes the model still meets the documented table: the number of processes is
    never observed (`step_multi`) -/
theorem matches_spec_multi (s : State) (h : ModeInv s) (c : Call) (hq : flushQuirk ⟨true, true⟩ s c = false) :
    absOut (step ⟨true, true⟩ s c) = specStep (abs s) c := by
  rw [step_multi]
  exact matches_spec s h c

/-- `mode_changes_only_by`: apart from enddef, _enddef, redef, begin/end_indep_data, close and abort
    no API touches the mode bits of either layer, the open/closed status or `ncp->old`. -/
theorem mode_changes_only_by (cfg : Cfg) (s : State) (h : ModeInv s) (c : Call) (hm : isModeCall c = false) :
    (step cfg s c).st.d = s.d ∧ (step cfg s c).st.n = s.n ∧
    (step cfg s c).st.opened = s.opened ∧ (step cfg s c).st.old = s.old := by
  have := step_frame cfg s c hm
  simp only [Keeps, modeView, Prod.mk.injEq] at this
  exact this

theorem effect_frame (a : AState) (c : Call) (hm : isModeCall c = false) :
    (effect a c).mode = a.mode ∧ (effect a c).opened = a.opened ∧
    (effect a c).rdonly = a.rdonly ∧ (effect a c).isNew = a.isNew := by
  cases c
  case post k _ _ _ _ zl => cases k <;> cases zl <;> exact ⟨rfl, rfl, rfl, rfl⟩
  case wait _ z => cases z <;> exact ⟨rfl, rfl, rfl, rfl⟩
  case cancel z => cases z <;> exact ⟨rfl, rfl, rfl, rfl⟩
  all_goals first | exact Bool.noConfusion hm | exact ⟨rfl, rfl, rfl, rfl⟩

/-- and at the level of the documentation: only those calls change (mode, opened) -/
theorem spec_mode_changes_only_by (a : AState) (c : Call) (hm : isModeCall c = false) :
    (specStep a c).st.mode = a.mode ∧ (specStep a c).st.opened = a.opened ∧
    (specStep a c).st.rdonly = a.rdonly ∧ (specStep a c).st.isNew = a.isNew := by
  unfold specStep
  split
  · exact ⟨rfl, rfl, rfl, rfl⟩
  · split
    · exact Bool.noConfusion hm
    · exact Bool.noConfusion hm
    · -- a rejected call leaves the state alone, a permitted one applies `effect`
      dsimp only
      split
      · exact ⟨rfl, rfl, rfl, rfl⟩
      · exact effect_frame a c hm

/-- the size the implementation compares in the data-mode guard of put_att / copy_att
    (`x_len_NC_attrV`) is the format's "values padded to 4 bytes", for every type class and count -/
theorem attr_space_is_padded_size (t : XT) (n : Nat) : xlen t n = headerBytes t n := xlen_eq_headerBytes t n

example : ModeInv (created true) := inv_created true
example : ModeInv (run Cfg.pinned (openedFile true true) [.beginIndep, .redef, .post .iput .recv false false false false]) :=
  inv_all_histories _ _ (Start.opened true true) _
-- a reachable state with the stale dispatcher INDEP bit, and what a collective put says there
example : (run Cfg.pinned (created true) [.enddef, .beginIndep, .redef]).d = ⟨false, true, true, true⟩ ∧
          (run Cfg.pinned (created true) [.enddef, .beginIndep, .redef]).n = ⟨false, true, false, false⟩ := by decide
example : (step Cfg.pinned (run Cfg.pinned (created true) [.enddef, .beginIndep, .redef])
            (.rw true true .fixed false false false false)).err = .eindefine := by decide
-- precedence: read-only file in collective mode, independent put of text into an int variable at a bad start
example : (step Cfg.pinned (openedFile false true) (.rw true false .fixed true true false false)).err = .eperm := by decide
example : (step Cfg.pinned (openedFile true true) (.rw true false .fixed true true false false)).err = .enotindep := by decide
example : (step Cfg.pinned (run Cfg.pinned (openedFile true true) [.beginIndep]) (.rw true false .fixed true true false false)).err
            = .echar := by decide
-- a rejection in the sense of `rejected_is_noop`, and a call `matches_spec_partial` applies to
example : isRejection (step Cfg.pinned (openedFile false true) .redef).err = true := by decide
example : droppedCheck (run Cfg.pinned (created true) [.enddef]) (.fillVarRec .recv) = false := by decide
example : droppedCheck (created true) (.fillVarRec .recv) = true := by decide
-- close in define mode performs enddef; abort of a new file deletes it; pending request at close
example : (step Cfg.pinned (created true) .abort).del = true := by decide
example : (step Cfg.pinned (run Cfg.pinned (created true) [.post .iput .recv false false false false]) .close).err = .epending := by
  decide

-- "needs more header space" in data mode (collective, writable): wider type with the same count is refused,
-- wider type with fewer elements that still needs more bytes is refused, a narrower type with more elements
-- in the same space is accepted, 3 -> 4 chars stays inside the padded word and is accepted, 4 -> 5 is not
example : (step Cfg.repaired (openedFile true true) (.putAtt .global false false false false true .x4 1 .x8 1)).err
            = .enotindefine := by decide
example : (step Cfg.repaired (openedFile true true) (.putAtt .global false false false false true .x4 3 .x8 2)).err
            = .enotindefine := by decide
example : (step Cfg.repaired (openedFile true true) (.putAtt .global false false false false true .x4 2 .x2 3)).err
            = .noerr := by decide
example : (step Cfg.repaired (openedFile true true) (.putAtt .global false false false false true .x1 3 .x1 4)).err
            = .noerr := by decide
example : (step Cfg.repaired (openedFile true true) (.putAtt .global false false false false true .x1 4 .x1 5)).err
            = .enotindefine := by decide
example : (step Cfg.repaired (openedFile true true) (.renameAtt .global false true false 2 3)).err = .enotindefine := by decide
example : (step Cfg.repaired (openedFile true true) (.renameAtt .global false true false 3 2)).err = .noerr := by decide

-- zero-length requests: the permission and mode tests still come first; varn with num == 0 then skips the
-- coordinate tests (and, for bput_varn, the attached-buffer test), a zero in count[] does not; nothing is
-- written or queued
example : (step Cfg.repaired (created true) (.rw true false .fixed false false true true)).err = .eindefine := by decide
example : (step Cfg.repaired (openedFile false true) (.rw true true .fixed false false true true)).err = .eperm := by decide
example : (step Cfg.repaired (openedFile true true) (.rw true false .fixed false false true true)).err = .enotindep := by decide
example : (step Cfg.repaired (openedFile true true) (.rw true true .fixed false true true true)).err = .noerr ∧
          (step Cfg.repaired (openedFile true true) (.rw true true .fixed false true true true)).wr = false := by decide
example : (step Cfg.repaired (openedFile true true) (.rw true true .fixed false true false true)).err = .einvalcoords := by decide
example : step Cfg.repaired (openedFile true true) (.post .bput .fixed false false true true)
            = ret (openedFile true true) .noerr := by decide
example : (step Cfg.repaired (openedFile true true) (.post .bput .fixed false false false true)).err = .enullabuf := by decide

def obligations : List String := [
  "inv_step", "inv_all_histories", "flags_agree", "flags_agree_bits_counterexample", "flags_agree_bits_partial",
  "one_mode", "one_mode_dispatcher_counterexample", "driver_asserts_hold",
  "matches_spec", "matches_spec_pinned_counterexample", "matches_spec_pinned_counterexample_indep",
  "matches_spec_pinned_counterexample_ub", "pinned_eq_repaired", "matches_spec_partial",
  "refines_all_histories", "rejected_is_noop", "error_is_noop", "error_is_noop_multi",
  "matches_spec_multi", "mode_changes_only_by",
  "spec_mode_changes_only_by", "attr_space_is_padded_size"
]
end PnVerif.Props.C14
