import PnVerif.Model.NumRecs
import PnVerif.Lemmas.NumRecs
import PnVerif.Lemmas.NumRecsStep
import PnVerif.Lemmas.NumRecsSched
/-
  C05 — the record count stays coherent across processes, memory and file header.

  Model/NumRecs.lean: a world of any number of ranks, each with its in-memory `numrecs`, dirty bit and queue of
  pending nonblocking puts, plus the header field of the shared file; `step` transcribes what every API call does
  to them.  Ghost fields (never read by `step`'s code part): `hi` = the record count the file started with and one
  plus the highest record index of every completed write since; `own` = the same for a rank's own writes.

  `Inv w` (Lemmas/NumRecs.lean) is the property:
     (a) collective data mode:   every rank's numrecs = header field = hi
     (b) independent data mode:  nobody is above hi, somebody holds hi, the header is not above hi — so that the next
         synchronisation call re-establishes (a) (`sync_restores`)
     (d) every rank's numrecs ≥ 1 + highest record it wrote itself (`own`)
  `Mono w w'` is (c): no rank's numrecs and not the header field ever decrease.

  The property as written is FALSE of the tree as it is; three counterexamples, each replayed against the real
  library by the harness:
     numrecs_inv_counterexample_deadlock     F2: a rank on the NC_REQ_ZERO path of a collective put skips the Allreduce
     numrecs_inv_counterexample_partial_wait F20: req_commit scans the first num_w_lead_reqs queue entries, not the marked ones
     numrecs_inv_counterexample_vard         F21: getput_vard advances numrecs for requests that write nothing
  `numrecs_inv_partial` proves the property for every history (any length, any number of ranks) that avoids exactly
  these (`Good`).  The model is parametric in which of the three repairs the tree contains (`Fix`; its fourth field `fillMode` plays no
  part here: the fill keeps the invariant in either data mode): each repair is
  needed on its own (`numrecs_inv_needs_*`) and with all three the property holds as written (`numrecs_inv_repaired`).
-/
namespace PnVerif.Props.C05
open PnVerif.NumRecs

/-- the calls on which today's code is right -/
def Good (fx : Fix) (w : World) : Op → Prop
  | .putAll f =>
      -- not (some rank on the zero path, some rank not) — unless repaired
      w.indep = true ∨ fx.zeroPath = true ∨ w.ranks.all (isPutArgErr f) = true ∨ w.ranks.any (isPutArgErr f) = false
  | .vardAll f =>
      (w.indep = true ∨ fx.zeroPath = true ∨ w.ranks.all (isVardArgErr f) = true ∨ w.ranks.any (isVardArgErr f) = false) ∧
      -- a vard request that writes nothing does not reach beyond what is being written
      (w.indep = false → ∀ r ∈ w.ranks, vardContrib fx.vardGuard f r ≤ maxOver w.hi (w.ranks.filterMap (vardEnd f)))
  | .waitAll sel =>
      -- what req_commit computes covers every marked request (true for NC_REQ_ALL and for the first k entries of the sorted queue)
      ∀ r ∈ w.ranks, ∀ e ∈ markedRecs r (sel r.id), e ≤ litNew fx.waitScan r (sel r.id)
  | .wait rk s => ∀ r ∈ w.ranks, r.id = rk → ∀ e ∈ markedRecs r s, e ≤ litNew fx.waitScan r s
  | _ => True

def GoodRun (fx : Fix) : World → List Op → Prop
  | _, [] => True
  | w, op :: rest => Good fx w op ∧ (match step fx w op with
                                    | none => True
                                    | some w' => GoodRun fx w' rest)

/-- one call, any of the thirteen operations -/
theorem inv_step (fx : Fix) (w : World) (op : Op) (hI : Inv w) (hg : Good fx w op) :
    ∃ w', step fx w op = some w' ∧ Inv w' ∧ Mono w w' := by
  cases op with
  | putAll f =>
    exact collPut_inv fx.zeroPath w hI _ _ _ hg (putEnd_raise f) (fun r _ => putContrib_of_putEnd f r)
      fun hc r hr => contrib_le w hI hc _ _ r hr (putContrib_cases f r)
  | vardAll f =>
    exact collPut_inv fx.zeroPath w hI _ _ _ hg.1 (vardEnd_raise f) (fun r _ => vardContrib_of_vardEnd _ f r) hg.2
  | putIndep rk e =>
    rw [step_putIndep_eq]
    exact ⟨_, rfl, localCall_inv w hI rk _ _ (putIndepG_id e) fun r _ _ => ⟨putIndepG_numrecs e r, putIndepG_own e r⟩⟩
  | iput rk id isRec e vb ro =>
    exact ⟨_, rfl, inv_map_keep w hI _ _ _ rfl rfl (by intro r _; split <;> rfl) (by intro r; split <;> rfl)
      (by intro r hr; split <;> exact hI.own r hr)⟩
  | waitAll sel => exact waitAll_inv fx.waitScan w hI sel hg
  | wait rk s =>
    rw [step_wait_eq]
    exact ⟨_, rfl, localCall_inv w hI rk _ _ (waitG_id _ s) fun r hr hid =>
      ⟨waitG_numrecs _ s r (hg r hr hid), waitG_own _ s r⟩⟩
  | fillRec rn =>
    -- with the unrepaired dispatcher NC_EINDEP is lost and the fill runs in independent mode too
    show ∃ w', (if (fx.fillMode && w.indep) = true then some w else some _) = some w' ∧ _
    split
    · exact ⟨w, rfl, Keeps.refl hI⟩
    refine ⟨_, rfl, raise_record_inv w hI _ _ (fun r => by rw [raiseRank_id]) ?_ fun r hr e he => ?_⟩
    · show maxOver w.hi (List.filterMap (some ∘ fun r => rn r.id + 1) w.ranks) = _
      rw [List.filterMap_eq_map]
      exact maxOver_eq_max _ _
    · cases he
      exact Nat.le_trans (le_maxOver_mem (List.mem_map_of_mem (f := fun r => rn r.id + 1) hr)) (Nat.le_max_right _ _)
  | beginIndep =>
    exact ⟨_, rfl, Inv.of_bounds hI.nonempty hI.own (fun _ hr => hI.le_hi hr) hI.exists_hi hI.rootHdr nofun, Mono.refl w⟩
  | endIndep => exact ⟨_, rfl, (endIndepCore_inv w hI).1⟩
  | sync => exact ⟨_, rfl, sync_inv w hI⟩
  | syncNumrecs => exact ⟨_, rfl, sync_inv w hI⟩
  | redef =>
    obtain ⟨k1, hcol, _⟩ := endIndepCore_inv w hI
    obtain ⟨hall, hhdr⟩ := k1.1.coll hcol
    obtain ⟨root, rest, hq⟩ := List.exists_cons_of_ne_nil k1.1.nonempty
    refine ⟨_, rfl, k1.trans (inv_map_keep _ k1.1 (fun r => { r with dirty := false }) _ _ ?_ rfl
      (fun _ _ => rfl) (fun _ => rfl) k1.1.own)⟩
    -- write_NC stores root's count, which is the header field already
    rw [hq]
    exact (hall root (hq ▸ List.mem_cons_self)).trans hhdr.symm
  | reopen =>
    obtain ⟨k1, hcol, _⟩ := endIndepCore_inv w hI
    obtain ⟨hall, hhdr⟩ := k1.1.coll hcol
    -- every rank reads the header field, which is its count already
    exact ⟨_, rfl, k1.trans (inv_map_keep _ k1.1
      (fun r => { r with numrecs := (endIndepCore w).hdr, dirty := false, pending := [] })
      _ _ rfl rfl (fun r hr => hhdr.trans (hall r hr).symm) (fun _ => rfl) k1.1.own)⟩

theorem init_inv (n h : Nat) (hn : 0 < n) : Inv (initWorld n h) := by
  refine Inv.of_coherent (fun hnil => ?_) (List.forall_mem_map.mpr fun _ _ => rfl) rfl
    (List.forall_mem_map.mpr fun _ _ => Nat.zero_le _)
  exact absurd (List.range_eq_nil.mp (List.map_eq_nil_iff.mp hnil)) (Nat.ne_of_gt hn)

/-- C05 for every history of good calls, any length, any number of ranks: the run never blocks, the invariant
    (a)(b)(d) holds after it — hence after every call, every prefix being a history — and nothing decreased (c) -/
theorem numrecs_inv_partial (fx : Fix) (w0 : World) (hI : Inv w0) (ops : List Op) (hg : GoodRun fx w0 ops) :
    ∃ w, run fx w0 ops = some w ∧ Inv w ∧ Mono w0 w := by
  induction ops generalizing w0 with
  | nil => exact ⟨w0, rfl, Keeps.refl hI⟩
  | cons op rest ih =>
    obtain ⟨hgo, hgr⟩ := hg
    obtain ⟨w1, hs, k1⟩ := inv_step fx w0 op hI hgo
    rw [hs] at hgr
    obtain ⟨w, hr, k2⟩ := ih w1 k1.1 hgr
    refine ⟨w, ?_, Keeps.trans k1 k2⟩
    rw [run, hs]
    exact hr

/-- the statement as written in the property: every history -/
def numrecs_inv_Statement (fx : Fix) : Prop :=
  ∀ (n h : Nat), 0 < n → ∀ ops : List Op, ∃ w, run fx (initWorld n h) ops = some w ∧ Inv w ∧ Mono (initWorld n h) w

/-- F2: two ranks, collective put on a record variable, rank 0 has a non-fatal argument error: rank 1 never returns -/
def histF2 : List Op := [.putAll fun i => if i = 0 then .argErr else .valid 4]
/-- rank 0 posts iput to record 0 then to record 5 and waits (wait_all) for the second only: record 5 is written,
    numrecs stays 0 on every rank and in the file -/
def histPartialWait : List Op :=
  [.iput 0 1 true 1 1 1, .iput 0 2 true 6 1 6, .waitAll fun i => if i = 0 then .ids [2] else .ids []]
/-- ncmpi_put_vard_all with bufcount 0 whose filetype reaches record 3: nothing is written, numrecs becomes 4 -/
def histVard : List Op := [.vardAll fun _ => .noData 4]

private theorem refutes (fx : Fix) (ops : List Op)
    (h : (run fx (initWorld 2 0) ops).all (fun w => !w.indep && w.hdr != w.hi) = true) : ¬ numrecs_inv_Statement fx := by
  intro hs
  obtain ⟨w, hw, hI, _⟩ := hs 2 0 (by decide) ops
  rw [hw] at h
  simp only [Option.all_some, Bool.and_eq_true, Bool.not_eq_eq_eq_not, Bool.not_true, bne_iff_ne] at h
  exact h.2 (hI.coll h.1).2

/-- the tree as it was found -/
theorem numrecs_inv_counterexample_deadlock : ¬ numrecs_inv_Statement Fix.none := refutes _ histF2 (by decide)
theorem numrecs_inv_counterexample_partial_wait : ¬ numrecs_inv_Statement Fix.none :=
  refutes _ histPartialWait (by decide)
theorem numrecs_inv_counterexample_vard : ¬ numrecs_inv_Statement Fix.none := refutes _ histVard (by decide)

/-- each of the three repairs is needed on its own: with all the others present the property still fails -/
theorem numrecs_inv_needs_zeroPath : ¬ numrecs_inv_Statement { Fix.all with zeroPath := false } :=
  refutes _ histF2 (by decide)
theorem numrecs_inv_needs_waitScan : ¬ numrecs_inv_Statement { Fix.all with waitScan := false } :=
  refutes _ histPartialWait (by decide)
theorem numrecs_inv_needs_vardGuard : ¬ numrecs_inv_Statement { Fix.all with vardGuard := false } :=
  refutes _ histVard (by decide)

theorem good_when_repaired (w : World) (hI : Inv w) (op : Op) : Good Fix.all w op := by
  cases op with
  | putAll f => exact Or.inr (Or.inl rfl)
  | vardAll f =>
    exact ⟨Or.inr (Or.inl rfl), fun hc r hr => contrib_le w hI hc _ _ r hr (vardContrib_cases f r)⟩
  | waitAll sel => exact fun r _ => litNew_scan_ge r (sel r.id)
  | wait rk s => exact fun r _ _ => litNew_scan_ge r s
  | _ => trivial

theorem goodRun_when_repaired (w : World) (hI : Inv w) (ops : List Op) : GoodRun Fix.all w ops := by
  induction ops generalizing w with
  | nil => trivial
  | cons op rest ih =>
    refine ⟨good_when_repaired w hI op, ?_⟩
    obtain ⟨w1, hs, hI1, _⟩ := inv_step Fix.all w op hI (good_when_repaired w hI op)
    rw [hs]
    exact ih w1 hI1

/-- C05 as written, for the tree with the three repairs: every history, any number of ranks -/
theorem numrecs_inv_repaired : numrecs_inv_Statement Fix.all := by
  intro n h hn ops
  exact numrecs_inv_partial Fix.all (initWorld n h) (init_inv n h hn) ops (goodRun_when_repaired _ (init_inv n h hn) ops)

/-- neither the record-count protocol nor the invariant mentions the I/O configuration (aggregation hint, collective
    header writes, file format): one call has the same effect under any two configurations, so `numrecs_inv_partial`
    / `numrecs_inv_repaired` hold for every configuration.  (That the library really follows the same protocol on the
    aggregation path is what the harness histories run with nc_num_aggrs_per_node = 1..n-1 tie down.) -/
theorem config_independent (c1 c2 : IoConfig) (fx : Fix) (w : World) (op : Op) :
    stepUnder c1 fx w op = stepUnder c2 fx w op := rfl

theorem inv_step_any_config (c : IoConfig) (fx : Fix) (w : World) (op : Op) (hI : Inv w) (hg : Good fx w op) :
    ∃ w', stepUnder c fx w op = some w' ∧ Inv w' ∧ Mono w w' := inv_step fx w op hI hg

/-- (a) after any call that leaves the file in collective data mode: every rank's count = the header field =
    one plus the highest record written by anybody (and the count the file started with) -/
theorem collective_coherent (w : World) (hI : Inv w) (hc : w.indep = false) :
    (∀ r ∈ w.ranks, r.numrecs = w.hi) ∧ w.hdr = w.hi := hI.coll hc

/-- (b) after independent writes the same holds from the next synchronisation call on — also for ncmpi_sync and
    ncmpi_sync_numrecs, which stay in independent mode -/
theorem sync_restores (fx : Fix) (w : World) (hI : Inv w) (op : Op)
    (hop : match op with | .endIndep | .sync | .syncNumrecs | .redef | .reopen => True | _ => False) :
    ∃ w', step fx w op = some w' ∧ (∀ r ∈ w'.ranks, r.numrecs = w'.hi) ∧ w'.hdr = w'.hi ∧ w'.hi = w.hi := by
  obtain ⟨_, hcol, hhi⟩ := endIndepCore_inv w hI
  -- `hop` is `False` for the other eight operations
  cases op <;> simp only at hop
  case sync | syncNumrecs =>
    refine ⟨_, rfl, ?_⟩
    cases hc : w.indep
    · exact ⟨(hI.coll hc).1, (hI.coll hc).2, rfl⟩
    · exact ⟨(syncCore_coherent w hI).1, (syncCore_coherent w hI).2, rfl⟩
  case endIndep | redef | reopen =>
    -- the file is left in collective data mode, where the invariant says just this
    refine (inv_step fx w _ hI (by trivial)).imp fun w' ⟨hs, hI', _⟩ => ⟨hs, ?_⟩
    cases hs
    exact ⟨(hI'.coll hcol).1, (hI'.coll hcol).2, hhi⟩

/-- (d) no rank's count is below what it wrote itself -/
theorem own_writes_readable (w : World) (hI : Inv w) : ∀ r ∈ w.ranks, r.own ≤ r.numrecs := hI.own

/-- the calls a rank executes on its own, without any other rank taking part -/
def localRank : Op → Option Nat
  | .putIndep r _ => some r
  | .iput r _ _ _ _ _ => some r
  | .wait r _ => some r
  | _ => none

private theorem local_form (fx0 : Fix) (o : Op) (rk : Nat) (h : localRank o = some rk) :
    ∃ (guard : Bool) (g : Rank → Rank) (en : Rank → List Nat), (∀ r, (g r).id = r.id) ∧
      ∀ w, step fx0 w o = some (localCall guard rk g en w) := by
  cases o with
  | putIndep r e => cases h; exact ⟨_, _, _, putIndepG_id e, fun w => step_putIndep_eq fx0 w _ e⟩
  | iput r id isRec e vb ro => cases h; exact ⟨_, _, _, iputG_id _, fun w => step_iput_eq fx0 w _ id isRec e vb ro⟩
  | wait r s => cases h; exact ⟨_, _, _, waitG_id _ s, fun w => step_wait_eq fx0 w _ s⟩
  | _ => cases h

/-- between two collectives the ranks run their local calls (independent puts, posting requests, independent
    waits) at their own pace: whichever of two ranks goes first, the world they reach is the same.  Together with
    the matcher theorems of C08 (a matched collective has one outcome) the state after a history does not depend
    on the relative timing of the processes. -/
theorem schedule_independent (fx : Fix) (w : World) (o1 o2 : Op) (a b : Nat)
    (h1 : localRank o1 = some a) (h2 : localRank o2 = some b) (hab : a ≠ b) :
    (step fx w o1).bind (fun w1 => step fx w1 o2) = (step fx w o2).bind (fun w2 => step fx w2 o1) := by
  obtain ⟨c1, g1, e1, hid1, hs1⟩ := local_form fx o1 a h1
  obtain ⟨c2, g2, e2, hid2, hs2⟩ := local_form fx o2 b h2
  rw [hs1 w, hs2 w, Option.bind_some, Option.bind_some, hs2, hs1, localCall_comm a b hab c1 c2 g1 g2 e1 e2 hid1 hid2 w]

example : localRank (.putIndep 2 12) = some 2 ∧ localRank (.wait 1 .all) = some 1 := by decide

def sampleHist : List Op :=
  [ .putAll (fun i => if i = 0 then .valid 3 else if i = 1 then .zero else .drvErr),
    .iput 1 7 true 9 1 9, .iput 1 8 true 5 1 5, .iput 2 9 false 0 0 0,
    .waitAll (fun i => if i = 1 then .ids [7] else .all),        -- the FIRST queue entry of rank 1: handled correctly
    .beginIndep, .putIndep 2 12, .wait 1 .all, .sync, .putIndep 0 14, .endIndep,
    .fillRec (fun _ => 15), .vardAll (fun i => if i = 0 then .valid 17 else .noData 16), .redef, .reopen ]

instance (fx : Fix) (w : World) (op : Op) : Decidable (Good fx w op) := by
  cases op <;> unfold Good <;> infer_instance

/-- executable form of `GoodRun` (only used to discharge the hypotheses of concrete histories by evaluation) -/
def goodRunB (fx : Fix) : World → List Op → Bool
  | _, [] => true
  | w, op :: rest => decide (Good fx w op) && (match step fx w op with
                                               | none => true
                                               | some w' => goodRunB fx w' rest)

theorem goodRunB_sound (fx : Fix) (w : World) (ops : List Op) (h : goodRunB fx w ops = true) : GoodRun fx w ops := by
  induction ops generalizing w with
  | nil => trivial
  | cons op rest ih =>
    unfold goodRunB at h
    simp only [Bool.and_eq_true, decide_eq_true_eq] at h
    refine ⟨h.1, ?_⟩
    cases hs : step fx w op with
    | none => trivial
    | some w' =>
      simp only
      have h2 := h.2
      rw [hs] at h2
      exact ih w' h2

/-- the sample history satisfies the hypotheses of `numrecs_inv_partial` … -/
example : GoodRun Fix.none (initWorld 3 2) sampleHist := goodRunB_sound _ _ _ (by decide)
/-- … the three counterexample histories do not … -/
example : ¬ GoodRun Fix.none (initWorld 2 0) histF2 := fun h => absurd h.1 (by decide)
example : goodRunB Fix.none (initWorld 2 0) histPartialWait = false := by decide
example : goodRunB Fix.none (initWorld 2 0) histVard = false := by decide
/-- … and the count really moves -/
example : (run Fix.none (initWorld 3 2) sampleHist).map (fun w => (w.ranks.map (·.numrecs), w.hdr, w.hi)) =
    some ([17, 17, 17], 17, 17) := by decide

def obligations : List String := [
  "inv_step", "init_inv", "numrecs_inv_partial",
  "numrecs_inv_counterexample_deadlock", "numrecs_inv_counterexample_partial_wait", "numrecs_inv_counterexample_vard",
  "numrecs_inv_needs_zeroPath", "numrecs_inv_needs_waitScan", "numrecs_inv_needs_vardGuard",
  "good_when_repaired", "numrecs_inv_repaired",
  "collective_coherent", "sync_restores", "own_writes_readable", "schedule_independent", "config_independent", "inv_step_any_config"
]
end PnVerif.Props.C05
