import PnVerif.Lemmas.Encode
import PnVerif.Lemmas.PostPass
import PnVerif.Lemmas.Accept
/-
  C04 — any specification-valid classic file is read back exactly.
  Model: Model/Header.lean; independent decoder: Spec/SpecDecode.lean.

  Predicates of the statements: NamesNoNul (Lemmas/HeaderLemmas), Encodable (Lemmas/Encode),
  Limits (Lemmas/Decode), Schema.LayoutValid (Spec/SpecDecode).
-/
namespace PnVerif.Props.C04
open PnVerif.Spec PnVerif.Header

/-- The header size the library reports (ncmpio_hdr_len_NC, used for `xsz`, the write length and
    every offset computed from it) is exactly the number of bytes hdr_put_NC_* produce, for every
    header in all three formats. -/
theorem encode_length (h : Hdr) (hn : NamesNoNul h) : (encodeRaw h).length = Hdr.len h := by
  unfold encodeRaw Hdr.len
  simp only [List.length_append, putNonNeg_length, putDimArray_length h.fmt h.dims hn.1,
    putAttrArray_length h.fmt h.gatts hn.2.1, putVarArray_length h.fmt h.vars hn.2.2]
  simp [magicBytes]

/-- The result of ncmpio_hdr_get_NC does not depend on the read chunk size: for EVERY value of
    ncp->chunk (the effective chunk is RNDUP(MAX(36, chunk), 4) as in the C) and EVERY byte string —
    valid, corrupt or truncated — the chunked reader (window, slack move, zero fill on short read,
    copy loops across chunk boundaries, padding refills) returns exactly what the reader with the
    whole file in view returns: the same header and derived layout, or the same error code. -/
theorem chunk_independent (c : Nat) (file : Bytes) : decodeChunked c file = decodeWhole file := by
  unfold decodeChunked decodeWhole
  simp only [fetch_init_eq, take12_ztake]
  cases checkMagic (ztake 12 file) with
  | error e => rfl
  | ok f =>
    -- both readers run the same program: same error, or the same header into the same post-pass
    obtain ⟨e, hx, hy⟩ | ⟨h, w, s, hx, hy, -⟩ :=
      (run_sim (Nat.le_trans (by decide) (chunkOf_ge c)) (getBody f) _ _ (inv_body c file)).elim
    all_goals simp only [hx, hy]

/-- The independent decoder (written from the format BNF only) recovers from the bytes the writer
    produces exactly the header that was written — every field, in all three formats — and leaves
    exactly the bytes that follow the header, for every header whose fields fit their widths
    (`Encodable`): any names without NUL, any attribute type/length including 0, any
    number/order of dimensions, attributes and variables, any vsize and begin values. -/
theorem specDecode_encode (d : Schema) (rest : Bytes) (h : Encodable d) :
    Spec.specDecode (encodeRaw d ++ rest) = some d := by
  unfold Spec.specDecode
  rw [header_put d rest h]; rfl

/-- ANY byte string the specification decoder accepts is decoded by the library's reader to exactly
    the specification's schema, provided only the library's own limits hold (names ≤ 256 bytes,
    counts ≤ 2^31-1, one record dimension, dimension ids in range): the header part of
    ncmpio_hdr_get_NC returns `d` itself, and the final result is the post-pass (shapes, lengths,
    offset checks) applied to `d`.  Nothing is assumed about who wrote the file: gaps, stale or
    saturated vsize, zero-length attributes, arbitrary padding content, arbitrary bytes after the
    header are all covered. -/
theorem decode_specvalid (b rest : Bytes) (d : Schema) (h : Spec.header b = some (d, rest)) (hl : Limits d) :
    decodeWhole b = (match postPass d with
      | .ok info => .ok (d, info)
      | .error e => .error e) := by
  obtain ⟨hm, hr⟩ := header_sim h hl
  simp only [decodeWhole, hm, hr]
  cases postPass d <;> rfl

/-- the same through the chunked reader, for every chunk size -/
theorem decodeChunked_specvalid (c : Nat) (b rest : Bytes) (d : Schema)
    (h : Spec.header b = some (d, rest)) (hl : Limits d) :
    decodeChunked c b = (match postPass d with
      | .ok info => .ok (d, info)
      | .error e => .error e) := by
  rw [chunk_independent, decode_specvalid b rest d h hl]

/-- the writer's own dialect is read back exactly, whatever follows the header -/
theorem decode_encode (d : Schema) (rest : Bytes) (he : Encodable d) (hl : Limits d) :
    decodeWhole (encodeRaw d ++ rest) = (match postPass d with
      | .ok info => .ok (d, info)
      | .error e => .error e) :=
  decode_specvalid _ rest d (header_put d rest he) hl

/-- vsize is ignored and recomputed: for ANY byte string the specification decoder accepts (and the
    library's limits), if ncmpio_hdr_get_NC opens the file then the header it holds is the
    specification's schema, and the variable lengths it uses from then on are the ones the format
    prescribes (product of the dimension lengths × element size, padded to 4) — whatever the vsize
    fields say (stale, saturated, zero) — for every read chunk size. -/
theorem open_reads_back (c : Nat) (b rest : Bytes) (d : Schema) (hdr : Hdr) (info : Info)
    (h : Spec.header b = some (d, rest)) (hl : Limits d) (ho : decodeChunked c b = .ok (hdr, info)) :
    hdr = d ∧ info.lens = d.vars.map d.varLen ∧ info.xsz = Hdr.len d := by
  rw [decodeChunked_specvalid c b rest d h hl] at ho
  cases hp : postPass d with
  | error e => rw [hp] at ho; cases ho
  | ok i =>
    rw [hp] at ho
    simp only [Except.ok.injEq, Prod.mk.injEq] at ho
    obtain ⟨rfl, rfl⟩ := ho
    exact ⟨rfl, postPass_lens d i hp⟩

/-- C04, the main statement.  ANY byte string that is a specification-valid classic file —
    accepted by the independent BNF decoder, within the library's limits, with a layout the
    specification allows (`Schema.LayoutValid`: valid dimension references, variables ≤ 2^31-4 bytes,
    begins after the header and increasing in definition order without overlap, gaps anywhere,
    any vsize) — is opened successfully by ncmpio_hdr_get_NC for EVERY read chunk size, and what the
    library then holds is exactly the specification's schema, the specified variable lengths and
    the encoded header size. -/
theorem valid_file_opens (c : Nat) (b rest : Bytes) (d : Schema)
    (h : Spec.header b = some (d, rest)) (hl : Limits d) (hv : d.LayoutValid (Hdr.len d)) :
    ∃ info, decodeChunked c b = .ok (d, info) ∧ info.lens = d.vars.map d.varLen ∧ info.xsz = Hdr.len d := by
  obtain ⟨info, hp⟩ := postPass_ok d hv
  refine ⟨info, ?_, postPass_lens d info hp⟩
  rw [decodeChunked_specvalid c b rest d h hl, hp]

/-- the same for the files the specification encoder of the harness (and the library's own writer)
    produces, with arbitrary bytes after the header -/
theorem valid_encoding_opens (c : Nat) (d : Schema) (rest : Bytes) (he : Encodable d) (hl : Limits d)
    (hv : d.LayoutValid (Hdr.len d)) :
    ∃ info, decodeChunked c (encodeRaw d ++ rest) = .ok (d, info) ∧ info.lens = d.vars.map d.varLen :=
  let ⟨info, h1, h2, _⟩ := valid_file_opens c _ rest d (header_put d rest he) hl hv
  ⟨info, h1, h2⟩

/-! non-vacuity: a CDF-1 header with a gap before the first variable, a stale vsize, a saturated
    vsize, a zero-length attribute and a record variable meets every hypothesis above -/
def exampleHdr : Schema :=
  { fmt := .cdf1, numrecs := 2,
    dims := [{ name := [0x74], size := 0 }, { name := [0x78], size := 3 }],
    gatts := [{ name := [0x61], xtype := .double, nelems := 0, xvalue := [] },
              { name := [0x62, 0x63], xtype := .short, nelems := 1, xvalue := [0, 7] }],
    vars := [{ name := [0x76], dimids := [1], atts := [], xtype := .int, vsize := 4294967295, begin := 400 },
             { name := [0x77], dimids := [0, 1], atts := [], xtype := .byte, vsize := 99, begin := 512 }] }

example : Encodable exampleHdr where
  numrecs := by decide
  ndims := by decide
  ngatts := by decide
  nvars := by decide
  dims := by simp [exampleHdr]; constructor <;> constructor <;> simp [NoNul, nnLim]
  gatts := by
    simp [exampleHdr]; constructor <;> constructor <;> simp [NoNul, nnLim, NcType.okFor, NcType.code, NcType.size]
  vars := by
    simp [exampleHdr]; constructor <;> constructor <;> simp [NoNul, nnLim, rawLim, offLim, NcType.okFor, NcType.code]

example : Limits exampleHdr where
  ndims := by decide
  ngatts := by decide
  nvars := by decide
  oneRec := by decide
  dimNames := by simp [exampleHdr, NC_MAX_NAME]
  gatts := by simp [exampleHdr, AttLim, NC_MAX_NAME]
  vars := by
    simp [exampleHdr]; constructor <;> constructor <;> simp [NC_MAX_NAME, NC_MAX_VAR_DIMS, NC_MAX_ATTRS, NC_MAX_INT]

example : (postPass exampleHdr).toOption.map (fun i => (i.xsz, i.lens, i.recsize, i.beginVar, i.beginRec)) =
    some (168, [12, 4], 3, 400, 512) := by decide

example : exampleHdr.LayoutValid (Hdr.len exampleHdr) := by
  refine ⟨?_, ?_, 412, by rfl, 516, by rfl⟩
  · intro v hv
    simp only [exampleHdr, List.mem_cons, List.mem_nil_iff, or_false] at hv
    rcases hv with rfl | rfl <;> simp [exampleHdr, Schema.isRecDim]
  · intro v hv
    simp only [exampleHdr, List.mem_cons, List.mem_nil_iff, or_false] at hv
    rcases hv with rfl | rfl <;> simp [exampleHdr, Schema.nelems, Schema.dimFactor, NcType.size]

def obligations : List String := [
  "encode_length", "chunk_independent", "specDecode_encode", "decode_specvalid", "decodeChunked_specvalid",
  "decode_encode", "open_reads_back", "valid_file_opens", "valid_encoding_opens"
]
end PnVerif.Props.C04
