import PnVerif.Lemmas.Redef
import PnVerif.Props.C16
/-
  C06 — redefinition preserves existing data; abort is all-or-nothing.

  Property theorems about the model `PnVerif.Model.Redef` (hand transcription of
  move_file_block / move_fixed_vars / move_record_vars / the moving decision of ncmpio__enddef /
  ncmpio_redef / ncmpio_abort).  All statements quantify over every process count ≥ 1, every
  MOVE_UNIT ≥ 1, every file content and length (including files shorter than the moved range:
  never-written data), both behaviours of MPI reads at the end of the file, every size and every record count including 0.
-/
namespace PnVerif.Props.C06
open PnVerif.Redef

/-- with bytes left to move the per-process chunk is never 0 (the C loop terminates) -/
theorem chunkSize_pos (n nprocs unit : Nat) (hn : 0 < n) (_hp : 1 ≤ nprocs) (hu : 1 ≤ unit) :
    0 < chunkSize n nprocs unit := by
  have hdm := Nat.div_add_mod n nprocs
  have hq : n % nprocs = 0 → 0 < n / nprocs := fun h0 =>
    Nat.pos_of_ne_zero fun hz => by rw [hz, h0] at hdm; omega
  have hc : 0 < (if n % nprocs ≠ 0 then n / nprocs + 1 else n / nprocs) := by
    split
    · exact Nat.succ_pos _
    · exact hq (Decidable.not_not.mp ‹_›)
  unfold chunkSize
  dsimp only
  generalize (if n % nprocs ≠ 0 then n / nprocs + 1 else n / nprocs) = c at hc ⊢
  split
  · exact hu
  · exact hc

theorem chunkSize_le (n nprocs unit : Nat) : chunkSize n nprocs unit ≤ unit := by
  unfold chunkSize
  dsimp only
  generalize (if n % nprocs ≠ 0 then n / nprocs + 1 else n / nprocs) = c
  split
  · exact Nat.le_refl _
  · omega

theorem bufcount_le (nprocs chunk nbytes rank : Nat) : bufcount nprocs chunk nbytes rank ≤ chunk := by
  unfold bufcount
  split
  · rename_i hlt
    have hc : 0 < chunk := Nat.pos_of_ne_zero fun h => by
      rw [h, Nat.mul_zero] at hlt
      exact Nat.not_lt_zero _ hlt
    dsimp only
    split
    · exact Nat.zero_le _
    · split
      · exact Nat.le_of_lt (Nat.mod_lt _ hc)
      · exact Nat.le_refl _
  · exact Nat.le_refl _

/-- `(int)chunk_size` in the C cannot truncate as long as MOVE_UNIT fits an int -/
theorem bufcount_fits_int (nprocs unit n nbytes rank : Nat) (hu : unit ≤ 2147483647) :
    bufcount nprocs (chunkSize n nprocs unit) nbytes rank ≤ 2147483647 :=
  Nat.le_trans (bufcount_le _ _ _ _) (Nat.le_trans (chunkSize_le _ _ _) hu)

/-- observable effect of `move_file_block`: a block copy, for every `ReadMode` -/
theorem moveBlock_copied (m : ReadMode) (nprocs unit : Nat) (hp : 1 ≤ nprocs) (hu : 1 ≤ unit) (f : File)
    (dst src n : Nat) (hds : src ≤ dst) :
    Copied f (moveBlock m nprocs unit f dst src n) dst src 0 n :=
  copied_moveLoop m nprocs _ dst src hp hds f n fun hn => chunkSize_pos n nprocs unit hn hp hu

/-- **moveBlock_correct**: for every number of processes, every MOVE_UNIT, every destination at or
    above the source, every length and every file (also one that ends inside the source range),
    after `move_file_block` every destination byte whose source byte exists holds that source byte,
    every byte outside the destination range is unchanged, and the file did not shrink. -/
theorem moveBlock_correct (m : ReadMode) (nprocs unit : Nat) (hp : 1 ≤ nprocs) (hu : 1 ≤ unit) (f : File)
    (dst src n : Nat) (hds : src ≤ dst) :
    (∀ i, i < n → src + i < f.length → rd (moveBlock m nprocs unit f dst src n) (dst + i) = rd f (src + i)) ∧
    (∀ j, (j < dst ∨ dst + n ≤ j) → rd (moveBlock m nprocs unit f dst src n) j = rd f j) ∧
    f.length ≤ (moveBlock m nprocs unit f dst src n).length := by
  obtain ⟨c1, c2, c3⟩ := moveBlock_copied m nprocs unit hp hu f dst src n hds
  exact ⟨fun i hi hs => c1 i (Nat.zero_le _) hi hs, fun j hj => c2 j hj, c3⟩

/-- non-vacuity: 3 processes, MOVE_UNIT 4, 20 bytes moved up by 5 inside a 30-byte file (two rounds,
    overlapping source and destination), short-count reads -/
example (f : File) (hf : f.length = 30) :
    ∀ i, i < 20 → rd (moveBlock .short 3 4 f 7 2 20) (7 + i) = rd f (2 + i) :=
  fun i hi => (moveBlock_correct .short 3 4 (by decide) (by decide) f 7 2 20 (by decide)).1 i hi (by omega)

private theorem rd_moveRecsLoop (m : ReadMode) (nprocs unit : Nat) (hp : 1 ≤ nprocs) (hu : 1 ≤ unit)
    (newOff oldOff newRs oldRs : Nat) (hoff : oldOff ≤ newOff) (hrs : oldRs ≤ newRs) :
    ∀ (n : Nat) (f : File),
      (∀ r k, r < n → k < oldRs → oldOff + r * oldRs + k < f.length →
        rd (moveRecsLoop m nprocs unit newOff oldOff newRs oldRs f n) (newOff + r * newRs + k)
          = rd f (oldOff + r * oldRs + k)) ∧
      (∀ j, (j < newOff ∨ newOff + n * newRs ≤ j) →
        rd (moveRecsLoop m nprocs unit newOff oldOff newRs oldRs f n) j = rd f j) ∧
      f.length ≤ (moveRecsLoop m nprocs unit newOff oldOff newRs oldRs f n).length := by
  intro n
  induction n with
  | zero => intro f; exact ⟨fun r k hr => absurd hr (Nat.not_lt_zero _), fun j _ => rfl, Nat.le_refl _⟩
  | succ n ih =>
    intro f
    have hle : oldOff + n * oldRs ≤ newOff + n * newRs :=
      Nat.add_le_add hoff (Nat.mul_le_mul_left n hrs)
    obtain ⟨b1, b2, b3⟩ := moveBlock_correct m nprocs unit hp hu f (newOff + n * newRs) (oldOff + n * oldRs) oldRs hle
    obtain ⟨ih1, ih2, ih3⟩ := ih (moveBlock m nprocs unit f (newOff + n * newRs) (oldOff + n * oldRs) oldRs)
    have hsm : (n + 1) * newRs = n * newRs + newRs := Nat.succ_mul n newRs
    refine ⟨fun r k hr hk hs => ?_, fun j hj => ?_, Nat.le_trans b3 ih3⟩
    · show rd (moveRecsLoop m nprocs unit newOff oldOff newRs oldRs _ n) _ = _
      by_cases hrn : r < n
      · have h1 : (r + 1) * oldRs ≤ n * oldRs := Nat.mul_le_mul_right oldRs hrn
        rw [Nat.succ_mul] at h1
        -- record `r < n` was not overwritten by record `n`, moved before it to a place above
        have hbelow : oldOff + r * oldRs + k < newOff + n * newRs := by omega
        rw [ih1 r k hrn hk (by omega), b2 _ (Or.inl hbelow)]
      · have : r = n := by omega
        subst this
        rw [ih2 _ (Or.inr (by omega))]
        exact b1 k hk (by omega)
    · show rd (moveRecsLoop m nprocs unit newOff oldOff newRs oldRs _ n) _ = _
      rw [ih2 j (by omega), b2 j (by omega)]

/-- **moveRecords_preserves**: for every record count (0 included), when the record section moves up
    (`newOff ≥ oldOff`) and the record size stays or grows, every existing byte of record `r` of the
    old layout lands at `newOff + r*newRs`; nothing below `newOff` (header, fixed-size variables)
    and nothing above the new record section is touched; the file does not shrink. -/
theorem moveRecords_preserves (m : ReadMode) (nprocs unit : Nat) (hp : 1 ≤ nprocs) (hu : 1 ≤ unit) (f : File)
    (newOff oldOff newRs oldRs nrecs : Nat) (hoff : oldOff ≤ newOff) (hrs : oldRs ≤ newRs) :
    (∀ r k, r < nrecs → k < oldRs → oldOff + r * oldRs + k < f.length →
      rd (moveRecords m nprocs unit f newOff oldOff newRs oldRs nrecs) (newOff + r * newRs + k)
        = rd f (oldOff + r * oldRs + k)) ∧
    (∀ j, (j < newOff ∨ newOff + nrecs * newRs ≤ j) →
      rd (moveRecords m nprocs unit f newOff oldOff newRs oldRs nrecs) j = rd f j) ∧
    f.length ≤ (moveRecords m nprocs unit f newOff oldOff newRs oldRs nrecs).length := by
  unfold moveRecords
  by_cases he : newRs = oldRs
  · subst he
    rw [if_pos rfl]
    by_cases hz : newRs = 0
    · rw [if_pos hz]
      exact ⟨fun r k _ hk => by omega, fun j _ => rfl, Nat.le_refl _⟩
    · rw [if_neg hz]
      obtain ⟨b1, b2, b3⟩ := moveBlock_correct m nprocs unit hp hu f newOff oldOff (newRs * nrecs) hoff
      have hc : newRs * nrecs = nrecs * newRs := Nat.mul_comm _ _
      refine ⟨fun r k hr hk hs => ?_, fun j hj => b2 j (by omega), b3⟩
      have h1 : (r + 1) * newRs ≤ nrecs * newRs := Nat.mul_le_mul_right newRs hr
      rw [Nat.succ_mul] at h1
      have := b1 (r * newRs + k) (by omega) (by omega)
      rw [← Nat.add_assoc, ← Nat.add_assoc] at this
      exact this
  · rw [if_neg he]
    exact rd_moveRecsLoop m nprocs unit hp hu newOff oldOff newRs oldRs hoff hrs nrecs f

/-- non-vacuity: a single 3-byte record variable (unpadded records) gets a companion, recsize 3 → 8,
    record section 40 → 64, 5 records, 2 processes, MOVE_UNIT 2, full-count reads with arbitrary junk -/
example (junk : Nat → UInt8) (f : File) (hf : f.length = 55) :
    ∀ r k, r < 5 → k < 3 → rd (moveRecords (.full junk) 2 2 f 64 40 8 3 5) (64 + r * 8 + k) = rd f (40 + r * 3 + k) :=
  fun r k hr hk => (moveRecords_preserves (.full junk) 2 2 (by decide) (by decide) f 64 40 8 3 5 (by decide) (by decide)).1
    r k hr hk (by omega)

/-- What `NC_begins` guarantees about the fixed-size variables that existed before the redefinition
    (checked on every real layout by the harness, see checks/c06.py `layout oracle`): no begin
    moves down, and in both layouts the variables follow each other in definition order without
    overlap. -/
def FixedOK : List MVar → Prop
  | [] => True
  | v :: vs =>
    (v.isRec = false →
      v.oldBegin ≤ v.newBegin ∧
      ∀ w ∈ vs, w.isRec = false → v.oldBegin + v.len ≤ w.oldBegin ∧ v.newBegin + v.len ≤ w.newBegin)
    ∧ FixedOK vs

theorem FixedOK.ge : ∀ {vars : List MVar}, FixedOK vars → ∀ v ∈ vars, v.isRec = false → v.oldBegin ≤ v.newBegin
  | [], _, v, hv, _ => by cases hv
  | u :: us, h, v, hv, hf => by
    cases hv with
    | head => exact (h.1 hf).1
    | tail _ hm => exact FixedOK.ge h.2 v hm hf

private theorem copied_moveFixedStep (m : ReadMode) (nprocs unit : Nat) (hp : 1 ≤ nprocs) (hu : 1 ≤ unit)
    (v : MVar) (g : File) (hge : v.isRec = false → v.oldBegin ≤ v.newBegin) :
    (v.isRec = false → ∀ k, k < v.len → v.oldBegin + k < g.length →
      rd (moveFixedStep m nprocs unit v g) (v.newBegin + k) = rd g (v.oldBegin + k)) ∧
    (∀ j, (v.isRec = false → j < v.newBegin ∨ v.newBegin + v.len ≤ j) →
      rd (moveFixedStep m nprocs unit v g) j = rd g j) ∧
    g.length ≤ (moveFixedStep m nprocs unit v g).length := by
  unfold moveFixedStep
  by_cases hr : v.isRec = true
  · simp [hr]
  · have hr' : v.isRec = false := by simpa using hr
    simp only [hr', Bool.false_eq_true, if_false]
    by_cases hm : v.newBegin > v.oldBegin
    · rw [if_pos hm]
      obtain ⟨b1, b2, b3⟩ := moveBlock_correct m nprocs unit hp hu g v.newBegin v.oldBegin v.len (hge hr')
      exact ⟨fun _ k hk hs => b1 k hk hs, fun j hj => b2 j (hj trivial), b3⟩
    · rw [if_neg hm]
      have : v.newBegin = v.oldBegin := by have := hge hr'; omega
      exact ⟨fun _ k _ _ => by rw [this], fun j _ => rfl, Nat.le_refl _⟩

/-- **moveFixed_preserves**: moving the fixed-size variables last-to-first keeps every existing byte
    of every one of them (old place → new place), writes nowhere outside their new places and
    never shrinks the file. -/
theorem moveFixed_preserves (m : ReadMode) (nprocs unit : Nat) (hp : 1 ≤ nprocs) (hu : 1 ≤ unit) (f : File) :
    ∀ (vars : List MVar), FixedOK vars →
      (∀ v ∈ vars, v.isRec = false → ∀ k, k < v.len → v.oldBegin + k < f.length →
        rd (moveFixed m nprocs unit f vars) (v.newBegin + k) = rd f (v.oldBegin + k)) ∧
      (∀ j, (∀ v ∈ vars, v.isRec = false → j < v.newBegin ∨ v.newBegin + v.len ≤ j) →
        rd (moveFixed m nprocs unit f vars) j = rd f j) ∧
      f.length ≤ (moveFixed m nprocs unit f vars).length := by
  intro vars
  induction vars with
  | nil => intro _; exact ⟨fun v hv => (by cases hv), fun j _ => rfl, Nat.le_refl _⟩
  | cons v vs ih =>
    intro hok
    obtain ⟨ih1, ih2, ih3⟩ := ih hok.2
    obtain ⟨s1, s2, s3⟩ := copied_moveFixedStep m nprocs unit hp hu v (moveFixed m nprocs unit f vs)
      (fun h => (hok.1 h).1)
    have hvs_ge := FixedOK.ge hok.2
    refine ⟨fun w hw hwf k hk hs => ?_, fun j hj => ?_, Nat.le_trans ih3 s3⟩
    · show rd (moveFixedStep m nprocs unit v (moveFixed m nprocs unit f vs)) _ = _
      cases hw with
      | head =>
        rw [s1 hwf k hk (by omega)]
        apply ih2
        intro u hu huf
        -- a later variable, moved before, wrote at its new begin: at or above its old begin, which is above `v`
        have habove : v.oldBegin + v.len ≤ u.newBegin :=
          Nat.le_trans ((hok.1 hwf).2 u hu huf).1 (hvs_ge u hu huf)
        exact Or.inl (Nat.lt_of_lt_of_le (Nat.add_lt_add_left hk _) habove)
      | tail _ hm =>
        rw [s2]
        · exact ih1 w hm hwf k hk hs
        · intro hvf
          have h1 := ((hok.1 hvf).2 w hm hwf).2
          omega
    · show rd (moveFixedStep m nprocs unit v (moveFixed m nprocs unit f vs)) _ = _
      rw [s2 j (fun hvf => hj v (List.mem_cons_self) hvf)]
      exact ih2 j (fun u hu huf => hj u (List.mem_cons_of_mem _ hu) huf)

/-- a concrete layout meeting `FixedOK`: header grew by 24 bytes, a record variable in between -/
example : FixedOK [⟨100, 124, 10, false⟩, ⟨0, 0, 8, true⟩, ⟨112, 136, 40, false⟩] := by
  simp [FixedOK]

/-- Facts about the pair (layout before redef, layout computed by NC_begins at enddef) under which
    the moving code is correct.  Every item is evaluated by checks/c06.py on every layout pair the
    real library produces (a failing item there is reported as a failing input of the property). -/
structure LayoutOK (old new : Lay) (nvars : Nat) (vars : List MVar) : Prop where
  fixed : FixedOK vars
  recGe : old.beginRec ≤ new.beginRec
  rsGe : old.recsize ≤ new.recsize
  fixedBelowOld : ∀ v ∈ vars, v.isRec = false → v.oldBegin + v.len ≤ old.beginRec
  fixedBelowNew : ∀ v ∈ vars, v.isRec = false → v.newBegin + v.len ≤ new.beginRec
  /-- if the header extent did not grow NC_begins reuses every old begin of a fixed-size variable -/
  sameIfNoGrow : new.beginVar ≤ old.beginVar → ∀ v ∈ vars, v.isRec = false → v.newBegin = v.oldBegin
  nvarsGe : vars.length ≤ nvars
  recNeedsVar : 0 < old.recsize → 0 < vars.length

/-- **enddefMove_preserves**: whatever branch `ncmpio__enddef` takes, every existing byte of every
    fixed-size variable that existed before is kept (at the variable's new begin) and every existing
    byte of every record (for every numrecs, 0 included) is kept at `new.beginRec + r * new.recsize`. -/
theorem enddefMove_preserves (m : ReadMode) (nprocs unit : Nat) (hp : 1 ≤ nprocs) (hu : 1 ≤ unit) (f : File)
    (old new : Lay) (nvars numrecs : Nat) (vars : List MVar) (h : LayoutOK old new nvars vars) :
    (∀ v ∈ vars, v.isRec = false → ∀ k, k < v.len → v.oldBegin + k < f.length →
      rd (enddefMove m nprocs unit f old new nvars numrecs vars) (v.newBegin + k) = rd f (v.oldBegin + k)) ∧
    (∀ r k, r < numrecs → k < old.recsize → old.beginRec + r * old.recsize + k < f.length →
      rd (enddefMove m nprocs unit f old new nvars numrecs vars) (new.beginRec + r * new.recsize + k)
        = rd f (old.beginRec + r * old.recsize + k)) := by
  obtain ⟨hr1, hr2, hr3⟩ := moveRecords_preserves m nprocs unit hp hu f new.beginRec old.beginRec
    new.recsize old.recsize numrecs h.recGe h.rsGe
  unfold enddefMove
  generalize moveRecords m nprocs unit f new.beginRec old.beginRec new.recsize old.recsize numrecs = f1
    at hr1 hr2 hr3 ⊢
  -- moving the records leaves the old places of the fixed-size variables alone
  have hA : ∀ v ∈ vars, v.isRec = false → ∀ k, k < v.len → rd f1 (v.oldBegin + k) = rd f (v.oldBegin + k) :=
    fun v hvm hvf k hk => hr2 _ (.inl (by have := h.fixedBelowOld v hvm hvf; have := h.recGe; omega))
  by_cases hn : nvars > 0
  · rw [if_pos hn]
    by_cases hv : new.beginVar > old.beginVar
    · rw [if_pos hv]
      obtain ⟨hf1, hf2, _⟩ := moveFixed_preserves m nprocs unit hp hu f1 vars h.fixed
      refine ⟨fun v hvm hvf k hk hs => ?_, fun r k hr hk hs => ?_⟩
      · rw [hf1 v hvm hvf k hk (by omega), hA v hvm hvf k hk]
      · rw [hf2 _ fun v hvm hvf => by have := h.fixedBelowNew v hvm hvf; omega]
        exact hr1 r k hr hk hs
    · rw [if_neg hv]
      have hsame := h.sameIfNoGrow (by omega)
      by_cases hm : new.beginRec > old.beginRec ∨ new.recsize > old.recsize
      · rw [if_pos hm]
        exact ⟨fun v hvm hvf k hk _ => by rw [hsame v hvm hvf, hA v hvm hvf k hk], hr1⟩
      · rw [if_neg hm]
        have e1 : new.beginRec = old.beginRec := by have := h.recGe; omega
        have e2 : new.recsize = old.recsize := by have := h.rsGe; omega
        exact ⟨fun v hvm hvf k _ _ => by rw [hsame v hvm hvf], fun r k _ _ _ => by rw [e1, e2]⟩
  · rw [if_neg hn]
    have hl : vars = [] := List.eq_nil_of_length_eq_zero (by have := h.nvarsGe; omega)
    refine ⟨fun v hvm => ?_, fun r k _ hk => ?_⟩
    · rw [hl] at hvm
      cases hvm
    · have := h.recNeedsVar (by omega)
      rw [hl] at this
      cases this

/-- a concrete instance of `LayoutOK`: one fixed variable (40 bytes) and one 3-byte record variable;
    the header extent grows 100 → 124 and a second record variable makes the record size 3 → 12 -/
example : LayoutOK ⟨100, 140, 3⟩ ⟨124, 164, 12⟩ 3 [⟨100, 124, 40, false⟩, ⟨140, 164, 4, true⟩] where
  fixed := by simp [FixedOK]
  recGe := by decide
  rsGe := by decide
  fixedBelowOld := by simp
  fixedBelowNew := by simp
  sameIfNoGrow := by simp
  nvarsGe := by decide
  recNeedsVar := by simp

open PnVerif.Fill in
/-- **enddef_fill_touches_only_new**: the fill that `ncmpi_enddef` performs after the move (new fill-mode
    variables, and their slots in the `numrecs` EXISTING records) writes only inside the new variables
    (`PnVerif.Props.C16.fill_effect`); if — as NC_begins lays them out — those slots are disjoint from the new
    places of the old variables and of the old records (`hdisjF`, `hdisjR`; evaluated by checks/c06.py on the
    real layouts, and the real per-rank fill ranges are checked to lie inside those slots), then after the
    WHOLE enddef (move + fill) every existing byte of every old fixed-size variable and of every old record is
    still what it was before the redefinition. -/
theorem enddef_fill_touches_only_new (m : ReadMode) (nprocs unit : Nat) (hp : 1 ≤ nprocs) (hu : 1 ≤ unit) (f : File)
    (old new : Lay) (nvars numrecs : Nat) (vars : List MVar) (h : LayoutOK old new nvars vars)
    (elem : FVar → List UInt8) (helem : ∀ v, (elem v).length = v.xsz) (newVars : List FVar) (recBase : Nat)
    (hnl : PnVerif.Props.C16.NewLayoutOK recBase new.recsize newVars)
    (hdisjF : ∀ b, PnVerif.Props.C16.InFillSlot new.recsize numrecs newVars b →
      ∀ v ∈ vars, v.isRec = false → b < v.newBegin ∨ v.newBegin + v.len ≤ b)
    (hdisjR : ∀ b, PnVerif.Props.C16.InFillSlot new.recsize numrecs newVars b →
      ∀ r, r < numrecs → b < new.beginRec + r * new.recsize ∨ new.beginRec + r * new.recsize + old.recsize ≤ b) :
    (∀ b, ¬ PnVerif.Props.C16.InFillSlot new.recsize numrecs newVars b →
      rd (enddefAll m nprocs unit f old new nvars numrecs vars elem newVars) b
        = rd (enddefMove m nprocs unit f old new nvars numrecs vars) b) ∧
    (∀ v ∈ vars, v.isRec = false → ∀ k, k < v.len → v.oldBegin + k < f.length →
      rd (enddefAll m nprocs unit f old new nvars numrecs vars elem newVars) (v.newBegin + k) = rd f (v.oldBegin + k)) ∧
    (∀ r k, r < numrecs → k < old.recsize → old.beginRec + r * old.recsize + k < f.length →
      rd (enddefAll m nprocs unit f old new nvars numrecs vars elem newVars) (new.beginRec + r * new.recsize + k)
        = rd f (old.beginRec + r * old.recsize + k)) := by
  have hfill := (PnVerif.Props.C16.fill_effect nprocs recBase new.recsize numrecs hp elem helem newVars hnl
    (enddefMove m nprocs unit f old new nvars numrecs vars)).2.2
  obtain ⟨hm1, hm2⟩ := enddefMove_preserves m nprocs unit hp hu f old new nvars numrecs vars h
  refine ⟨fun b hb => hfill b hb, fun v hv hvf k hk hs => ?_, fun r k hr hk hs => ?_⟩
  · unfold enddefAll
    rw [hfill _ (fun hin => by have := hdisjF _ hin v hv hvf; omega)]
    exact hm1 v hv hvf k hk hs
  · unfold enddefAll
    rw [hfill _ (fun hin => by have := hdisjR _ hin r hr; omega)]
    exact hm2 r k hr hk hs

/-- non-vacuity of `hdisjF`/`hdisjR`: the layout of the `LayoutOK` example below (fixed variable at 124..164,
    4-byte old records at 164 + 12·r) and a new fill-mode record variable of 2 ints at offset 4 of every record -/
example : ∀ b, PnVerif.Props.C16.InFillSlot 12 3 [(⟨168, 4, 2, true, false⟩ : PnVerif.Fill.FVar)] b →
    (b < 124 ∨ 124 + 40 ≤ b) ∧ ∀ r, r < 3 → b < 164 + r * 12 ∨ 164 + r * 12 + 4 ≤ b := by
  intro b ⟨v, hv, _, hk⟩
  have hv' : v = ⟨168, 4, 2, true, false⟩ := by simpa using hv
  subst hv'
  rcases hk with ⟨h1, _⟩ | ⟨_, recno, _, h1, h2⟩
  · cases h1
  · simp only [PnVerif.Props.C16.vbytes] at h1 h2
    refine ⟨by omega, fun r _ => by omega⟩

/-- **abort_redef_identity**: entering define mode from data mode (collective or independent) and
    aborting leaves the disk exactly as it was when `ncmpi_redef` returned: abort writes nothing. -/
theorem abort_redef_identity (sync : File → File) (s : NCState) (d : Disk)
    (hdata : s.indef = false) (hnew : s.isNew = false) :
    abort sync (redef sync s d).1 (redef sync s d).2 = (redef sync s d).2 := by
  unfold redef abort endIndep
  -- `redef` leaves independent mode (its `endIndep`), so the `endIndep` of `abort`, its only write, does not fire
  cases hi : s.indep <;> simp [hi, hdata, hnew]

/-- the hypotheses of `abort_redef_identity` hold in a reachable state in which abort WOULD write if
    redef had not left independent mode (independent data mode, record variables present) -/
example : (⟨false, false, true, false, false, 2⟩ : NCState).indef = false ∧
          (⟨false, false, true, false, false, 2⟩ : NCState).isNew = false := by decide

/-- **abort_create_removes**: aborting a file that is still in its initial define mode removes it -/
theorem abort_create_removes (sync : File → File) (s : NCState) (d : Disk) (hnew : s.isNew = true) :
    abort sync s d = none := by
  unfold abort
  simp [hnew]

example : abort id ⟨true, true, false, false, false, 0⟩ (some [67, 68, 70, 1]) = none := by
  simp [abort]

/-- **define_mode_ops_write_nothing**: any sequence of metadata calls (definitions, attribute puts, deletes,
    renames, `ncmpi_copy_att` from a source file in ANY mode, fill settings) on a file that is in define mode
    leaves the disk exactly as it is; together with `abort_redef_identity` this is why an aborted redefinition
    is invisible.  (Tie: checks/c06.py snapshots the file after define-mode calls, incl. `ncmpi_copy_att` from
    a second file in data mode, and compares byte for byte.) -/
theorem define_mode_ops_write_nothing (writeHdr : File → File) (s : NCState) (hdef : s.indef = true)
    (ops : List MetaOp) (d : Disk) : ops.foldl (metaOpDisk writeHdr s) d = d := by
  induction ops generalizing d with
  | nil => rfl
  | cons op ops ih => simp only [List.foldl_cons, metaOpDisk, hdef, if_true]; exact ih d

/-- the other direction: `ncmpi_copy_att` INTO a file in data mode writes that file's header at once, whatever
    the mode of the source file -/
theorem copyAtt_data_mode_writes (writeHdr : File → File) (s : NCState) (hdata : s.indef = false)
    (srcIndef : Bool) (d : Disk) : metaOpDisk writeHdr s d (.copyAtt srcIndef) = d.map writeHdr := by
  simp [metaOpDisk, hdata, MetaOp.inDataMode]

example : (⟨false, true, false, false, true, 1⟩ : NCState).indef = true := rfl   -- a file under redefinition

theorem endIndep_isSome (sync : File → File) (s : NCState) (d : Disk) :
    (endIndep sync s d).2.isSome = d.isSome := by
  unfold endIndep
  split
  · rfl
  · split
    · rfl
    · dsimp only
      split
      · exact Option.isSome_map
      · rfl

/-- in data mode (not new, no pending redefinition) abort keeps the file (it is a close) -/
theorem abort_data_keeps (sync : File → File) (s : NCState) (f : File)
    (hnew : s.isNew = false) : (abort sync s (some f)).isSome = true := by
  have key : ∀ s1 : NCState, (if (!s1.readonly && s1.indep) = true then endIndep sync s1 (some f)
      else (s1, some f)).2.isSome = true := by
    intro s1
    split
    · rw [endIndep_isSome]; rfl
    · rfl
  unfold abort
  simp only [hnew, Bool.not_false, if_true, Bool.false_eq_true, if_false]
  exact key _

def obligations : List String := [
  "chunkSize_pos", "bufcount_fits_int", "moveBlock_copied", "moveBlock_correct",
  "moveRecords_preserves", "moveFixed_preserves", "enddefMove_preserves", "enddef_fill_touches_only_new",
  "abort_redef_identity", "abort_create_removes", "abort_data_keeps",
  "define_mode_ops_write_nothing", "copyAtt_data_mode_writes"
]
end PnVerif.Props.C06
