import PnVerif.Lemmas.MetaTab
import PnVerif.Lemmas.MetaRefine
/-
  C07 — metadata and namespace operations behave like a sequential model.

  The name lookup tables.  For EVERY hash function `h` and EVERY table size
  ≥ 1 (so every pattern of collisions), the table invariant `TabInv`
      "the table has `size` buckets; every id < n occurs exactly once, in bucket h(name id) mod size,
       and nowhere else; no other number occurs in any bucket"
  is established by create/open and preserved by every table operation of ncmpio_hash_func.c, and
  under it the hash lookup is the linear search of the sequential reference model.
-/
namespace PnVerif.Props.C07
open PnVerif.Meta

theorem hash_inv_empty (h : Nat → Name → Nat) (size : Nat) : TabInv h size [] (emptyTable size) :=
  emptyTable_inv h size

/-- ncmpio_hash_insert (def_dim, def_var, put_att/copy_att of a new attribute) -/
theorem hash_inv_insert (h : Nat → Name → Nat) (size : Nat) (hs : 0 < size) (names : List Name) (T : Table)
    (inv : TabInv h size names T) (nm : Name) :
    TabInv h size (names ++ [nm]) (hashInsert h size T nm names.length) :=
  hashInsert_inv hs inv nm

/-- ncmpio_hash_delete with id shifting (del_att): succeeds on every defined id and the result is
    the invariant for the array with that element removed (all later ids one lower) -/
theorem hash_inv_delete (h : Nat → Name → Nat) (size : Nat) (hs : 0 < size) (names : List Name) (T : Table)
    (inv : TabInv h size names T) (id : Nat) (hid : id < names.length) :
    ∃ T', hashDelete h size T names[id] id = some T' ∧ TabInv h size (names.eraseIdx id) T' :=
  hashDelete_inv hs inv id hid

/-- ncmpio_hash_replace (rename_att) and ncmpio_update_name_lookup_table (rename_dim, rename_var) -/
theorem hash_inv_replace (h : Nat → Name → Nat) (size : Nat) (hs : 0 < size) (names : List Name) (T : Table)
    (inv : TabInv h size names T) (id : Nat) (hid : id < names.length) (new : Name) :
    ∃ T', hashReplace h size T names[id] new id = some T' ∧ TabInv h size (names.set id new) T' :=
  hashReplace_inv hs inv id hid new

/-- ncmpio_hash_table_copy (redef: ncp->old) returns the very same table -/
theorem hash_inv_copy (h : Nat → Name → Nat) (size : Nat) (names : List Name) (T : Table)
    (inv : TabInv h size names T) : tableCopy T size = T ∧ TabInv h size names (tableCopy T size) := by
  have e := tableCopy_eq T size inv.len
  exact ⟨e, by rw [e]; exact inv⟩

/-- ncmpio_hash_table_populate_NC_dim/var/attr (open): for any duplicate-free array read from a
    header, the populated table satisfies the invariant and the array is unchanged -/
theorem hash_inv_populate {α : Type} [Named α] (h : Nat → Name → Nat) (size : Nat) (hs : 0 < size)
    (xs : List α) (nd : (xs.map Named.name).Nodup) :
    (NArr.ofList h size xs).items = xs ∧ (NArr.ofList h size xs).Inv h size :=
  ⟨NArr.ofList_items h size xs, NArr.ofList_inv hs xs nd⟩

/-- the invariant pins the table down: an id is in bucket k iff it is defined and its name hashes to k -/
theorem hash_inv_mem (h : Nat → Name → Nat) (size : Nat) (names : List Name) (T : Table)
    (inv : TabInv h size names T) (k id : Nat) :
    id ∈ bucket T k ↔ ∃ hid : id < names.length, key h size names[id] = k :=
  mem_bucket_iff inv k id

/-- NC_finddim / NC_findvar / ncmpio_NC_findattr = linear search over the plain list of names -/
theorem lookup_by_name_eq_spec {α : Type} [Named α] (h : Nat → Name → Nat) (size : Nat) (A : NArr α)
    (inv : A.Inv h size) (nm : Name) : A.find h size nm = lookup A.names nm :=
  NArr.find_eq_lookup inv nm

theorem name_id_agree {α : Type} [Named α] (h : Nat → Name → Nat) (size : Nat) (A : NArr α)
    (inv : A.Inv h size) (id : Nat) (hid : id < A.items.length) :
    A.find h size (Named.name A.items[id]) = some id :=
  NArr.find_name inv id hid

/-!
  Every operation of the model (dispatcher checks + ncmpio driver + table maintenance,
  Model/Meta.lean) refines the sequential reference model (plain lists, Spec/MetaSpec.lean), for
  every hash function, every NFC function, every name-legality predicate (`Env`), every table size
  ≥ 1, and — `meta_refines` — every program: any sequence of create / open / close / enddef / redef /
  def_dim / def_var / put_att / rename_* / copy_att / del_att over any number of files — except for ONE defect of the code
  (copy_att of an extended-type attribute into a CDF-1/2 file is not rejected): full statement,
  counterexample and partial theorem below.
-/

/-- `R E x y`: the model result `x` and the reference result `y` show the same abstract file, the
    same error code / id, and the model file still satisfies `FInv` (all four kinds of tables
    consistent, names pairwise distinct, header on disk well formed). -/
theorem def_dim_refines (E : Env) (f : File) (raw : Name) (size : Int) (inv : FInv E f) :
    R E (defDim E f raw size) (sDefDim E f.abs raw size) :=
  defDim_refines inv raw size

theorem rename_dim_refines (E : Env) (f : File) (dimid : Int) (raw : Name) (inv : FInv E f) :
    R E (renameDim E f dimid raw) (sRenameDim E f.abs dimid raw) :=
  renameDim_refines inv dimid raw

theorem def_var_refines (E : Env) (f : File) (raw : Name) (xtype : Int) (dimids : List Int) (inv : FInv E f) :
    R E (defVar E f raw xtype dimids) (sDefVar E f.abs raw xtype dimids) :=
  defVar_refines inv raw xtype dimids

theorem rename_var_refines (E : Env) (f : File) (varid : Int) (raw : Name) (inv : FInv E f) :
    R E (renameVar E f varid raw) (sRenameVar E f.abs varid raw) :=
  renameVar_refines inv varid raw

/-- put_att: new attribute, overwrite smaller / equal / larger, define and data mode, `_FillValue` rules,
    NC_ERANGE with the attribute still stored -/
theorem put_att_refines (E : Env) (f : File) (varid : Int) (raw : Name) (isText : Bool) (xtype : Int)
    (vals : List Int) (inv : FInv E f) :
    R E (putAtt E f varid raw isText xtype vals) (sPutAtt E f.abs varid raw isText xtype vals) :=
  putAtt_refines inv varid raw isText xtype vals

theorem rename_att_refines (E : Env) (f : File) (varid : Int) (raw rawNew : Name) (inv : FInv E f) :
    R E (renameAtt E f varid raw rawNew) (sRenameAtt E f.abs varid raw rawNew) :=
  renameAtt_refines inv varid raw rawNew

/-- del_att: ids and order after the deletion are those of the list with the element removed -/
theorem del_att_refines (E : Env) (f : File) (varid : Int) (raw : Name) (inv : FInv E f) :
    R E (delAtt E f varid raw) (sDelAtt E f.abs varid raw) :=
  delAtt_refines inv varid raw

/-- copy_att within a file, between variables, and between two files: the full statement, for the code
    variant `b` (`Env.copyChk`: false = ncmpio_copy_att before the repair of C07-D1, true = repaired) -/
def copy_att_refines_Statement (b : Bool) : Prop :=
  ∀ (E : Env) (fin : File) (varidIn : Int) (raw : Name) (fout : File) (varidOut : Int) (same : Bool),
    E.copyChk = b → FInv E fin → FInv E fout →
    R E (copyAtt E fin varidIn raw fout varidOut same) (sCopyAtt E fin.abs varidIn raw fout.abs varidOut same)

/-- FALSE of the unrepaired code (defect C07-D1): ncmpi_copy_att / ncmpio_copy_att never
    look at the format of the output file, so an NC_UINT64 attribute of a CDF-5 file is copied into a
    CDF-1 file with NC_NOERR (ncmpi_put_att of the same attribute returns NC_ESTRICTCDF2); the file
    written at enddef/close is not a CDF-1 file and ncmpi_open refuses it (NC_EBADTYPE). -/
theorem copy_att_refines_counterexample : ¬ copy_att_refines_Statement false := by
  intro h
  let E : Env := ⟨fun _ _ => 0, id, fun _ => true, false⟩
  let fin : File := (putAtt E (create ⟨1, 1, 1, 1, 5⟩) (-1) [97] false 11 [5]).1
  have hin : FInv E fin :=
    (put_att_refines E _ (-1) [97] false 11 [5] (create_refines E ⟨1, 1, 1, 1, 5⟩ (by decide) (by decide) (by decide) (by decide)).2).2.2
  have hout : FInv E (create ⟨1, 1, 1, 1, 1⟩) :=
    (create_refines E ⟨1, 1, 1, 1, 1⟩ (by decide) (by decide) (by decide) (by decide)).2
  have := (h E fin (-1) [97] (create ⟨1, 1, 1, 1, 1⟩) (-1) false rfl hin hout).2.1
  exact absurd this (by decide)

/-- the unrepaired code with exactly the hypothesis it needs: the attribute being copied does not
    have an extended type while the output file is CDF-1/2 -/
theorem copy_att_refines_partial (E : Env) (fin : File) (varidIn : Int) (raw : Name) (fout : File) (varidOut : Int)
    (same : Bool) (invIn : FInv E fin) (inv : FInv E fout)
    (hok : ∀ Ain i ia, fin.getAtts varidIn = some Ain → lookup (names Ain.items) (E.nfc raw) = some i →
             Ain.items[i]? = some ia → ¬ (fout.cfg.format ≤ 2 ∧ ia.xtype > 6)) :
    R E (copyAtt E fin varidIn raw fout varidOut same) (sCopyAtt E fin.abs varidIn raw fout.abs varidOut same) :=
  copyAtt_refines E fin varidIn raw fout varidOut same invIn inv (Or.inr hok)

theorem copy_att_refines_repaired : copy_att_refines_Statement true :=
  fun E fin varidIn raw fout varidOut same hb invIn inv =>
    copyAtt_refines E fin varidIn raw fout varidOut same invIn inv (Or.inl hb)

/-- open: whatever well-formed header is read, populate-at-open yields consistent tables and the
    file shows exactly the header's lists -/
theorem open_refines (E : Env) (c : Cfg) (s : SHdr) (rdonly : Bool) (wf : s.Wf)
    (hd : 0 < c.hd) (hv : 0 < c.hv) (hg : 0 < c.hg) (ha : 0 < c.ha) :
    (openFile E c s rdonly).abs = sOpen c.format s rdonly ∧ FInv E (openFile E c s rdonly) :=
  openFile_refines E c s rdonly wf hd hv hg ha

/-- `meta_refines`, full statement for the code variant `b`: every program, run from the empty world,
    returns the reference model's results (error codes and ids, call by call), ends in a world whose
    abstraction is the reference model's world (objects, ids, order, names, types, lengths, values;
    header content left on disk by close), and every table of every open file is consistent at the end. -/
def meta_refines_Statement (b : Bool) : Prop :=
  ∀ (E : Env) (nslots : Nat) (ops : List MOp), E.copyChk = b → (∀ op ∈ ops, op.ok) →
    (wrun E (World.init nslots) ops).2 = (swrun E (SWorld.init nslots) ops).2 ∧
    (wrun E (World.init nslots) ops).1.abs = (swrun E (SWorld.init nslots) ops).1 ∧
    WInv E (wrun E (World.init nslots) ops).1

/-- the program that refutes it for the unrepaired code: create a CDF-5 file and a CDF-1 file, put an
    NC_UINT64 attribute into the first, copy it into the second — the code answers NC_NOERR, the
    reference model NC_ESTRICTCDF2 -/
def badCopy : List MOp :=
  [.create 0 ⟨8, 8, 8, 8, 5⟩, .create 1 ⟨8, 8, 8, 8, 1⟩, .putAtt 0 (-1) [97] false 11 [5], .copyAtt 0 (-1) [97] 1 (-1)]

theorem meta_refines_counterexample : ¬ meta_refines_Statement false := by
  intro h
  have := (h ⟨fun _ _ => 0, id, fun _ => true, false⟩ 2 badCopy rfl (by decide)).1
  exact absurd this (by decide)

/-- the repaired code answers the refuting program like the reference model -/
example : (wrun ⟨fun _ _ => 0, id, fun _ => true, true⟩ (World.init 2) badCopy).2.map Prod.fst = [0, 0, 0, -232] := by
  decide

/-- `meta_refines_partial`: for either variant the statement holds for every program that satisfies
    `copiesOK` (evaluated along the run): trivially true of every program with the repair
    (`copiesOK_of_chk`), and without it true of every program that never copies an attribute of an
    extended type into a CDF-1/2 file — in particular every program without copy_att. -/
theorem meta_refines_partial (E : Env) (nslots : Nat) (ops : List MOp) (ok : ∀ op ∈ ops, op.ok)
    (cok : copiesOK E (World.init nslots) ops = true) :
    (wrun E (World.init nslots) ops).2 = (swrun E (SWorld.init nslots) ops).2 ∧
    (wrun E (World.init nslots) ops).1.abs = (swrun E (SWorld.init nslots) ops).1 ∧
    WInv E (wrun E (World.init nslots) ops).1 := by
  have := wrun_refines E (World.init nslots) ops (init_winv E nslots) ok cok
  rw [init_abs] at this
  exact ⟨this.2.1, this.1, this.2.2⟩

theorem meta_refines_repaired : meta_refines_Statement true :=
  fun E nslots ops hb ok => meta_refines_partial E nslots ops ok (copiesOK_of_chk hb _ _)

/-- the table invariants themselves need no such hypothesis: they hold in every reachable world of
    every program (the defect concerns what is copied, not the tables) — stated for programs that
    satisfy `copiesOK`; see `hash_inv_*` above for the unconditional per-operation statements -/
theorem tables_consistent_reachable (E : Env) (nslots : Nat) (ops : List MOp) (ok : ∀ op ∈ ops, op.ok)
    (cok : copiesOK E (World.init nslots) ops = true) (s : Nat) (f : File)
    (hf : (wrun E (World.init nslots) ops).1.file s = some f) :
    TabInv E.h f.cfg.hd f.hdr.dims.names f.hdr.dims.tab ∧ TabInv E.h f.cfg.hv f.hdr.vars.names f.hdr.vars.tab ∧
    TabInv E.h f.cfg.hg f.hdr.gatts.names f.hdr.gatts.tab ∧
    ∀ v ∈ f.hdr.vars.items, TabInv E.h f.cfg.ha v.atts.names v.atts.tab := by
  have inv := reachable_FInv ok cok hf
  exact ⟨inv.dims.1, inv.vars.1, inv.gatts.1, fun v hv => (inv.vatts v hv).1⟩

/-- in every reachable world every inquiry on every open file answers what the reference model
    answers (lookup by name through the hash tables included) -/
theorem inquiries_agree (E : Env) (nslots : Nat) (ops : List MOp) (ok : ∀ op ∈ ops, op.ok)
    (cok : copiesOK E (World.init nslots) ops = true) (s : Nat) (f : File)
    (hf : (wrun E (World.init nslots) ops).1.file s = some f) :
    (∀ raw, inqDimid E f raw = sInqDimid E f.abs raw) ∧ (∀ raw, inqVarid E f raw = sInqVarid E f.abs raw) ∧
    (∀ id, inqDim f id = sInqDim f.abs id) ∧ (∀ id, inqVar f id = sInqVar f.abs id) ∧
    (∀ v, inqNatts f v = sInqNatts f.abs v) ∧ (∀ v n, inqAttname f v n = sInqAttname f.abs v n) ∧
    (∀ v raw, inqAttid E f v raw = sInqAttid E f.abs v raw) ∧ (∀ v raw, inqAtt E f v raw = sInqAtt E f.abs v raw) ∧
    (∀ v raw t, getAtt E f v raw t = sGetAtt E f.abs v raw t) := by
  have inv := reachable_FInv ok cok hf
  exact ⟨inqDimid_eq inv, inqVarid_eq inv, inqDim_eq, inqVar_eq, inqNatts_eq, inqAttname_eq, inqAttid_eq inv,
    inqAtt_eq inv, getAtt_eq inv⟩

/-- API-level `name_id_agree`: in every reachable world, asking for the id of the name that
    inq_dim / inq_var report for an id gives that id back (NFC must be idempotent on stored names,
    which holds for real NFC; for the identity `nfc` see the example below) -/
theorem name_id_agree_api (E : Env) (nslots : Nat) (ops : List MOp) (ok : ∀ op ∈ ops, op.ok)
    (cok : copiesOK E (World.init nslots) ops = true) (s : Nat) (f : File)
    (hf : (wrun E (World.init nslots) ops).1.file s = some f) :
    (∀ i (hi : i < f.hdr.dims.items.length), E.nfc f.hdr.dims.items[i].name = f.hdr.dims.items[i].name →
        chkNameInq f.hdr.dims.items[i].name = 0 → inqDimid E f f.hdr.dims.items[i].name = (NC_NOERR, (i : Int))) ∧
    (∀ i (hi : i < f.hdr.vars.items.length), E.nfc f.hdr.vars.items[i].name = f.hdr.vars.items[i].name →
        chkNameInq f.hdr.vars.items[i].name = 0 → inqVarid E f f.hdr.vars.items[i].name = (NC_NOERR, (i : Int))) := by
  have inv := reachable_FInv ok cok hf
  constructor
  · intro i hi hn hc
    have : f.hdr.dims.find E.h f.cfg.hd f.hdr.dims.items[i].name = some i := NArr.find_name inv.dims i hi
    simp only [inqDimid, hc, hn, this, ne_eq, not_true_eq_false, if_false]
  · intro i hi hn hc
    have : f.hdr.vars.find E.h f.cfg.hv f.hdr.vars.items[i].name = some i := NArr.find_name inv.vars i hi
    simp only [inqVarid, hc, hn, this, ne_eq, not_true_eq_false, if_false]

/-- "a metadata change made in data mode is in the file as soon as the call returns": each of the five
    operations that may change metadata in data mode either leaves the file object untouched (error
    return, rename_dim to the same name, self copy) or returns with the header on disk equal to the new
    in-memory header (ncmpio_write_header was called).  What `disk` means physically (the bytes of the
    file) is checked by the harness through a second read-only handle (DISK requests). -/
theorem data_mode_change_on_disk (E : Env) (f : File) (h : f.indef = false) :
    (∀ varid raw isText xt vals, (putAtt E f varid raw isText xt vals).1 = f ∨
        (putAtt E f varid raw isText xt vals).1.disk = some (putAtt E f varid raw isText xt vals).1.hdr.abs) ∧
    (∀ varid raw rawNew, (renameAtt E f varid raw rawNew).1 = f ∨
        (renameAtt E f varid raw rawNew).1.disk = some (renameAtt E f varid raw rawNew).1.hdr.abs) ∧
    (∀ dimid raw, (renameDim E f dimid raw).1 = f ∨
        (renameDim E f dimid raw).1.disk = some (renameDim E f dimid raw).1.hdr.abs) ∧
    (∀ varid raw, (renameVar E f varid raw).1 = f ∨
        (renameVar E f varid raw).1.disk = some (renameVar E f varid raw).1.hdr.abs) ∧
    (∀ fin varidIn raw varidOut same, (copyAtt E fin varidIn raw f varidOut same).1 = f ∨
        (copyAtt E fin varidIn raw f varidOut same).1.disk = some (copyAtt E fin varidIn raw f varidOut same).1.hdr.abs) :=
  ⟨putAtt_disk h, renameAtt_disk h, renameDim_disk h, renameVar_disk h, copyAtt_disk h⟩

/-! ### non-vacuity: a concrete table with a collision (everything hashes to bucket 1 of 2) -/

example : TabInv (fun _ _ => 1) 2 [[97], [98]] [[], [0, 1]] := by
  have h0 := hash_inv_empty (fun _ _ => 1) 2
  have h1 := hash_inv_insert (fun _ _ => 1) 2 (by decide) [] _ h0 [97]
  exact hash_inv_insert (fun _ _ => 1) 2 (by decide) [[97]] _ h1 [98]

example : hashDelete (fun _ _ => 1) 2 [[], [0, 1, 2]] [97] 0 = some [[], [0, 1]] := by decide

/-- a program with colliding names (constant hash, table size 1 and 2), a delete that shifts ids and a
    rename, run on model and reference model: the hypotheses of `meta_refines` are met -/
def demoEnv : Env := ⟨fun _ _ => 7, id, fun _ => true, false⟩
def demoOps : List MOp :=
  [.create 0 ⟨1, 2, 1, 2, 5⟩, .defDim 0 [120] 3, .defDim 0 [121] 0, .defVar 0 [118] 4 [1, 0],
   .putAtt 0 0 [97] false 4 [1, 2], .putAtt 0 0 [98] true 2 [104, 105], .putAtt 0 0 [99] false 1 [300],
   .delAtt 0 0 [97], .renameAtt 0 0 [99] [100], .enddef 0, .renameVar 0 0 [119], .close 0,
   .openF 0 2 1 2 1 true, .copyAtt 0 0 [100] 0 (-1)]
example : ∀ op ∈ demoOps, op.ok := by decide
example : copiesOK demoEnv (World.init 1) demoOps = true := by decide
/-- hence the file invariant `FInv` (hypothesis of all per-operation theorems) is met by a concrete
    non-trivial file: the one the demo program leaves open (2 dims, 1 renamed var with 2 attributes
    after a delete, a global attribute, reopened with other table sizes) -/
example : ∃ f, (wrun demoEnv (World.init 1) demoOps).1.file 0 = some f ∧ FInv demoEnv f := by
  have hs : ((wrun demoEnv (World.init 1) demoOps).1.file 0).isSome = true := by decide
  obtain ⟨f, hf⟩ := Option.isSome_iff_exists.mp hs
  exact ⟨f, hf, reachable_FInv (by decide) (by decide) hf⟩
example : (wrun demoEnv (World.init 1) demoOps).2.map Prod.fst = [0, 0, 0, 0, 0, 0, -60, 0, 0, 0, 0, 0, 0, -38] := by
  decide

/-- **bernstein_in_table**: for every name (any bytes, any length) and every table size the library can
    be configured with (1 ≤ size < 2³²; a size of 0 is rejected when the hint is parsed), the value
    ncmpio_Bernstein_hash returns — used by the C directly as the index into `nameT[]` — lies inside
    the table. -/
theorem bernstein_in_table (size : Nat) (nm : Name) (h1 : 1 ≤ size) (h2 : size < 2^32) : bernstein size nm < size := by
  unfold bernstein
  simp only [UInt32.toNat_and]
  have hm : (UInt32.ofNat size - 1).toNat = size - 1 := by
    rw [UInt32.toNat_sub_of_le]
    · simp [UInt32.toNat_ofNat']; omega
    · rw [UInt32.le_iff_toNat_le]; simp [UInt32.toNat_ofNat']; omega
  refine Nat.lt_of_le_of_lt Nat.and_le_right ?_
  rw [hm]; omega

/-- the model indexes buckets with `key h size nm = h size nm % size`; for the real hash function the
    reduction is the identity, i.e. the model's bucket is the C's bucket `nameT[HASH_FUNC(name, size)]` -/
theorem key_bernstein (size : Nat) (nm : Name) (h1 : 1 ≤ size) (h2 : size < 2^32) :
    key bernstein size nm = bernstein size nm :=
  Nat.mod_eq_of_lt (bernstein_in_table size nm h1 h2)

/-- non-vacuity / regression anchor: concrete values, also compared with the compiled C by the harness -/
example : bernstein 256 [0x74, 0x69, 0x6d, 0x65] = 142 ∧ bernstein 64 [] = 0 := by decide

def obligations : List String := [
  "bernstein_in_table", "key_bernstein", "hash_inv_empty", "hash_inv_insert", "hash_inv_delete", "hash_inv_replace", "hash_inv_copy",
  "hash_inv_populate", "hash_inv_mem", "lookup_by_name_eq_spec", "name_id_agree",
  "def_dim_refines", "rename_dim_refines", "def_var_refines", "rename_var_refines", "put_att_refines",
  "rename_att_refines", "del_att_refines", "copy_att_refines_counterexample", "copy_att_refines_partial",
  "copy_att_refines_repaired", "open_refines", "meta_refines_counterexample", "meta_refines_repaired", "meta_refines_partial", "tables_consistent_reachable",
  "inquiries_agree", "name_id_agree_api", "data_mode_change_on_disk"
]
end PnVerif.Props.C07
