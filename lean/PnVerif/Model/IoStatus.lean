/-
  C11 — I/O failures are never silently dropped.  Hand-written part of the model.

  The GENERATED tables (Gen/IoSites.lean, Gen/ErrMap.lean; tools/gen_c11_iosites.py) say, for every
  MPI-IO data-transfer call expression of the default driver ("site") and for every call of a
  function through which such a status travels ("chain row"), which values the enclosing C function
  can return when that one call fails and every other call succeeds:

      Outcome.points   for the incoming codes the C function compares with (NC_EFILE, NC_EWRITE ...)
      Outcome.other    for every other incoming code (`.mapped` = the incoming code itself)

  This file gives those tables their meaning (`Outcome.eval`), composes them along a call path up
  to a driver entry point (`runChains`, `apiOutcomes`), names the closed set of error-handling
  patterns (`Pattern`, `patternEval`) and transcribes by hand the one status combination whose
  result depends on the request mix: `req_commit` (write phase, then read phase, one `err`).

  Core Lean only (the driver links against this module).
-/
namespace PnVerif.IoStatus

/-- one possible return value of a C function, relative to the incoming failure code `m` -/
inductive Res where
  | zero                 -- NC_NOERR: the failure is dropped
  | lit (k : Int)        -- a constant NC code
  | mapped               -- the incoming code itself
  | unknown              -- the translator could not tell (fails closed: counted as a drop)
  deriving DecidableEq, Repr, Inhabited

def Res.val (m : Int) : Res → Int
  | .zero => 0
  | .lit k => k
  | .mapped => m
  | .unknown => 0

structure Outcome where
  points : List (Int × List Res)
  other  : List Res
  deriving DecidableEq, Repr, Inhabited

/-- possible return values of the enclosing function when the incoming failure code is `m` -/
def Outcome.eval (o : Outcome) (m : Int) : List Int :=
  match o.points.lookup m with
  | some rs => rs.map (Res.val m)
  | none => o.other.map (Res.val m)

/-- the closed set of error-handling patterns (tools/gen_c11_iosites.py `classify`) -/
inductive Pattern where
  | propagate               -- status = err (first error wins) ... return status
  | returnNow               -- return ncmpii_error_mpi2nc(...) inside the handler
  | mapEFILEthenPropagate   -- err = (err == NC_EFILE) ? NC_EREAD|NC_EWRITE : err; status = err
  | mapEFILEthenReturn      -- same, but `return err` inside the handler (independent I/O)
  | onlyIfEFILE             -- if (err == NC_EFILE) status = NC_EREAD|NC_EWRITE;  every other class is dropped
  | ignored                 -- mpireturn never tested / overwritten / result of the callee discarded
  | overwritable            -- the variable holding the status is assigned again by a later call before it is folded
  | constant                -- a fixed code whatever the class
  | unknown                 -- anything else: the check fails closed
  deriving DecidableEq, Repr, Inhabited

/-- meaning of a pattern: return values for incoming code `m` (`c` = the replacement code of the
    EFILE rewrites, `efile` = NC_EFILE) -/
def patternEval (efile : Int) : Pattern → Int → Int → List Int
  | .propagate, _, m => [m]
  | .returnNow, _, m => [m]
  | .mapEFILEthenPropagate, c, m => [if m = efile then c else m]
  | .mapEFILEthenReturn, c, m => [if m = efile then c else m]
  | .onlyIfEFILE, c, m => [if m = efile then c else 0]
  | .ignored, _, _ => [0]
  | .overwritable, _, m => [m, 0]
  | .constant, c, _ => [c]
  | .unknown, _, _ => [0]

/-- what a pattern's table row looks like away from the special points -/
def patternOther : Pattern → Int → List Res
  | .propagate, _ => [.mapped]
  | .returnNow, _ => [.mapped]
  | .mapEFILEthenPropagate, _ => [.mapped]
  | .mapEFILEthenReturn, _ => [.mapped]
  | .onlyIfEFILE, _ => [.zero]
  | .ignored, _ => [.zero]
  | .overwritable, _ => [.mapped, .zero]
  | .constant, c => [.lit c]
  | .unknown, _ => [.unknown]

def Pattern.needsEfile : Pattern → Bool
  | .mapEFILEthenPropagate | .mapEFILEthenReturn | .onlyIfEFILE => true
  | _ => false

/-- patterns under which a non-zero incoming code stays non-zero -/
def Pattern.keeps (p : Pattern) (c : Int) : Bool :=
  match p with
  | .propagate | .returnNow => true
  | .mapEFILEthenPropagate | .mapEFILEthenReturn => c != 0
  | .constant => c != 0
  | _ => false

/-- decidable certificate that the table row `o` is summarised by pattern `p` with code `c` -/
def agrees (efile : Int) (p : Pattern) (c : Int) (o : Outcome) : Bool :=
  o.points.all (fun kr => kr.2.map (Res.val kr.1) == patternEval efile p c kr.1)
  && (o.other == patternOther p c)
  && (!p.needsEfile || (o.points.lookup efile).isSome)

structure Site where
  key : Nat               -- numeric key of `id` (strings are labels only; the kernel computes on keys)
  fn : Nat                -- numeric key of `func`
  id : String
  file : String
  func : String
  call : String
  zeroLen : Bool          -- buffer NULL and count 0: the rank only takes part in a collective call
  isRead : Bool
  pattern : Pattern
  code : Int
  out : Outcome
  deriving Repr, Inhabited

structure Chain where
  key : Nat
  callerFn : Nat
  calleeFn : Nat
  id : String
  caller : String
  callee : String
  pattern : Pattern
  code : Int
  out : Outcome
  deriving Repr, Inhabited

structure Path where
  fn : Nat                -- key of the function holding the site
  chain : List Nat        -- indices into `chains`, innermost call first
  chainKeys : List Nat    -- keys of the same rows
  api : Nat               -- key of the driver entry point reached
  apiName : String
  deriving Repr, Inhabited

/-- a status `r` returned by the callee of chain row `ch`: what the caller returns.
    `r = 0` means the failure was already dropped below: the caller sees success. -/
def stepChain (ch : Chain) (r : Int) : List Int :=
  if r = 0 then [0] else ch.out.eval r

def runChains : List Chain → List Int → List Int
  | [], rs => rs
  | ch :: rest, rs => runChains rest (rs.flatMap (stepChain ch))

/-- class → NC code table of ncmpii_error_mpi2nc -/
def mpi2nc (explicitMap : List (Nat × Int)) (defaultCode : Int) (cls : Nat) : Int :=
  (explicitMap.lookup cls).getD defaultCode

/-- possible values returned by the driver entry point of path `p` when site `s` fails with NC code `m` -/
def apiOutcomes (chains : List Chain) (s : Site) (p : Path) (m : Int) : List Int :=
  runChains (p.chain.filterMap (fun i => chains[i]?)) (s.out.eval m)

/-- a path is well formed w.r.t. the tables: starts at the site's function, every row's callee is the
    previous row's caller, ends at `api`, and every index is in range -/
def chainLinked (chains : List Chain) : Nat → List Nat → List Nat → Nat → Bool
  | f, [], [], api => f == api
  | f, i :: rest, k :: krest, api =>
    match chains[i]? with
    | some ch => ch.key == k && ch.calleeFn == f && chainLinked chains ch.callerFn rest krest api
    | none => false
  | _, _, _, _ => false

/-! ### `req_commit` (ncmpio_wait.c), transcribed by hand

    err = extract_reqs(...);                      -- 0 under the single-fault assumption
    if (do_write > 0) err = wait_getput(WR);      -- (or the intra-node aggregation variant)
    if (do_read  > 0) err = wait_getput(RD);
    if (status == NC_NOERR) status = err;         -- status was NC_NOERR
    ... post-processing, unpack errors folded with first-error-wins ...
    return status;
-/
def commitStatus (doWrite doRead : Bool) (wErr rErr : Int) : Int :=
  let err := 0
  let err := if doWrite then wErr else err
  let err := if doRead then rErr else err
  let status := 0
  if status = 0 then err else status

/-- the REPAIRED req_commit (findings/patches/C11-F3-req_commit-status.diff): the status of each phase
    is folded into `status` right after the phase, first error wins:

    if (do_write > 0) { err = wait_getput(WR); if (status == NC_NOERR) status = err; }
    if (do_read  > 0) { err = wait_getput(RD); if (status == NC_NOERR) status = err; }
-/
def commitStatusFixed (doWrite doRead : Bool) (wErr rErr : Int) : Int :=
  let status := 0
  let status := if doWrite then (if status = 0 then wErr else status) else status
  let status := if doRead then (if status = 0 then rErr else status) else status
  status

/-- the C idiom `if (status == NC_NOERR) status = err;` -/
def firstErr (status err : Int) : Int := if status = 0 then err else status

theorem lookup_some_mem {α β : Type} [BEq α] [LawfulBEq α] (k : α) (l : List (α × β)) (b : β)
    (h : l.lookup k = some b) : (k, b) ∈ l := by
  obtain ⟨l₁, l₂, rfl, _⟩ := List.lookup_eq_some_iff.mp h
  exact List.mem_append_right _ List.mem_cons_self

theorem patternOther_eval (efile : Int) (p : Pattern) (c m : Int)
    (h : p.needsEfile = true → m ≠ efile) :
    (patternOther p c).map (Res.val m) = patternEval efile p c m := by
  cases p
  case mapEFILEthenPropagate | mapEFILEthenReturn | onlyIfEFILE =>
    exact congrArg (· :: []) (if_neg (h rfl)).symm
  all_goals rfl

/-- soundness of the certificate: a row that `agrees` with pattern `p` evaluates, for EVERY incoming
    code, to exactly what the pattern means -/
theorem agrees_sound (efile : Int) (p : Pattern) (c : Int) (o : Outcome)
    (h : agrees efile p c o = true) (m : Int) : o.eval m = patternEval efile p c m := by
  simp only [agrees, Bool.and_eq_true] at h
  obtain ⟨⟨hpts, hoth⟩, hef⟩ := h
  unfold Outcome.eval
  cases hl : o.points.lookup m with
  | some rs => exact eq_of_beq (List.all_eq_true.mp hpts (m, rs) (lookup_some_mem m o.points rs hl))
  | none =>
    rw [eq_of_beq hoth]
    refine patternOther_eval efile p c m fun hp hme => ?_
    rw [hp, ← hme, hl] at hef
    exact absurd hef (by decide)

end PnVerif.IoStatus
