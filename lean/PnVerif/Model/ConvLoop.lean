/-
  C09: the getn/putn loops of ncx.c around the per-element primitives.
  Two loop shapes exist in the generated C (the translator classifies every loop and fails
  closed on anything else, see Gen.Ncx.loopShapes):

    firstErr : for (...) { lstatus = prim(xp, tp); if (status == NC_NOERR) status = lstatus; }
    inline   : while (...) { if (bad) { fill; status = NC_ERANGE; continue; } *xp++ = (T)*tp++; }

  Both are modelled as left folds carrying the C `status` variable; the theorems say that
  (1) every element is converted independently of its neighbours and of earlier errors,
  (2) the returned status is the first non-zero element status.
-/
namespace PnVerif.ConvLoop

/-- the C loop, shape `firstErr` -/
def loopFirst {α β : Type} (elem : α → β × Int) (xs : List α) : List β × Int :=
  xs.foldl (fun (acc : List β × Int) x =>
    let r := elem x
    (acc.1 ++ [r.1], if acc.2 = 0 then r.2 else acc.2)) ([], 0)

/-- the C loop, shape `inline`: status is *assigned* whenever an element fails -/
def loopLast {α β : Type} (elem : α → β × Int) (xs : List α) : List β × Int :=
  xs.foldl (fun (acc : List β × Int) x =>
    let r := elem x
    (acc.1 ++ [r.1], if r.2 ≠ 0 then r.2 else acc.2)) ([], 0)

/-- specification: first non-zero status of a list of statuses -/
def firstErr : List Int → Int
  | [] => 0
  | e :: es => if e ≠ 0 then e else firstErr es

theorem foldl_outputs_status {α β : Type} (elem : α → β × Int) (g : Int → Int → Int) (xs : List α)
    (acc : List β) (st : Int) :
    xs.foldl (fun (a : List β × Int) x => (a.1 ++ [(elem x).1], g a.2 (elem x).2)) (acc, st)
      = (acc ++ xs.map (fun x => (elem x).1), (xs.map (fun x => (elem x).2)).foldl g st) := by
  induction xs generalizing acc st with
  | nil => simp
  | cons x xs ih => simp [ih]

theorem foldl_keep_first (es : List Int) (st : Int) :
    es.foldl (fun s e => if s = 0 then e else s) st = if st = 0 then firstErr es else st := by
  induction es generalizing st with
  | nil => simp [firstErr]
  | cons e es ih =>
    rw [List.foldl_cons, ih, firstErr]
    by_cases h : st = 0 <;> by_cases he : e = 0 <;> simp [h, he]

theorem foldl_assign_on_error (c : Int) (es : List Int) (st : Int) (hst : st = 0 ∨ st = c)
    (h : ∀ e ∈ es, e = 0 ∨ e = c) :
    es.foldl (fun s e => if e ≠ 0 then e else s) st = if st = 0 then firstErr es else st := by
  induction es generalizing st with
  | nil => simp [firstErr]
  | cons e es ih =>
    have hes := fun e' he' => h e' (List.mem_cons_of_mem _ he')
    rw [List.foldl_cons, firstErr]
    by_cases he : e = 0
    · simp only [he, ne_eq, not_true_eq_false, if_false]
      exact ih st hst hes
    · have hec := (h e List.mem_cons_self).resolve_left he
      rw [if_pos he, if_pos he, ih e (.inr hec) hes, if_neg he]
      rcases hst with h0 | hc
      · rw [if_pos h0]
      · rw [hc, ← hec, if_neg he]

/-- every element converted independently; status = first error -/
theorem loopFirst_spec {α β : Type} (elem : α → β × Int) (xs : List α) :
    loopFirst elem xs = (xs.map (fun x => (elem x).1), firstErr (xs.map (fun x => (elem x).2))) :=
  (foldl_outputs_status elem (fun s e => if s = 0 then e else s) xs [] 0).trans
    (Prod.ext (List.nil_append _) ((foldl_keep_first _ 0).trans (if_pos rfl)))

/-- when all element errors are the same code (they are: NC_ERANGE), "assign on error"
    returns the same status as "keep the first error" -/
theorem loopLast_spec {α β : Type} (elem : α → β × Int) (c : Int) (xs : List α)
    (h : ∀ x ∈ xs, (elem x).2 = 0 ∨ (elem x).2 = c) :
    loopLast elem xs = (xs.map (fun x => (elem x).1), firstErr (xs.map (fun x => (elem x).2))) :=
  (foldl_outputs_status elem (fun s e => if e ≠ 0 then e else s) xs [] 0).trans
    (Prod.ext (List.nil_append _)
      ((foldl_assign_on_error c _ 0 (.inl rfl) (List.forall_mem_map.mpr h)).trans (if_pos rfl)))

/-- non-vacuity: a failing element in the middle does not disturb its neighbours -/
example : loopFirst (fun (x : Int) => if x > 127 then ((-127 : Int), (-60 : Int)) else (x, 0)) [1, 300, 2]
    = ([1, -127, 2], -60) := by decide

end PnVerif.ConvLoop
