import PnVerif.Spec.SpecDecode
/-
  Model/Header.lean — executable model of the classic-header reader and writer of PnetCDF
  (hand transcription; tied to the C by the C04/C03 correspondence harnesses).

    src/drivers/ncmpio/ncmpio_header_put.c   hdr_put_NC_*            → `put*`, `encodeRaw`, `Hdr.encode`
    src/drivers/ncmpio/ncmpio_header_get.c   hdr_len_NC_*            → `len*`, `Hdr.len`
                                             hdr_fetch               → `fetch`
                                             hdr_get_uint32/64       → `getFixedW`
                                             copy loops of hdr_get_NC_name / hdr_get_NC_attrV → `getBytesW`
                                             padding skip            → `padW`
                                             hdr_get_NC_*            → the reader program `get*` (monad `P`)
                                             ncmpio_hdr_get_NC       → `decodeChunked`, `decodeWhole`
                                             compute_var_shape       → `computeVarShape`
    src/drivers/ncmpio/ncmpio_var.c          ncmpio_NC_var_shape64   → `varShape64`
    src/drivers/ncmpio/ncmpio_enddef.c       ncmpio_NC_check_vlen(s) → `checkVlen`, `checkVlens`
                                             ncmpio_NC_check_voffs   → `checkVoffs`
    src/drivers/ncmpio/ncmpio_attr.c         x_len_NC_attrV          → `xlenAttrV`

  The reader is written ONCE, as a program over four primitive reads (32-bit word, 64-bit word,
  n bytes, skip ≤ 3 padding bytes) — this is exactly the layering of the C (every hdr_get_NC_* goes
  through hdr_get_uint32/64, the two copy loops and the padding skip).  The program is interpreted
  by two readers: the window reader (buffer of `chunk` bytes, `pos`, file offset: the C machinery)
  and the flat reader (the remaining bytes of the file, zero-extended).  `decodeChunked c` and
  `decodeWhole` are the two interpretations.  Core Lean only.
-/
namespace PnVerif.Header
open PnVerif.Spec

abbrev Hdr := Schema

/-! ### constants (pnetcdf.h, ncmpio_NC.h) -/
def NC_MAX_INT : Nat := 2147483647
def NC_MAX_UINT : Nat := 4294967295
def NC_MAX_INT64 : Nat := 9223372036854775807
def NC_MAX_NAME : Nat := 256
def NC_MAX_DIMS : Nat := NC_MAX_INT
def NC_MAX_ATTRS : Nat := NC_MAX_INT
def NC_MAX_VARS : Nat := NC_MAX_INT
def NC_MAX_VAR_DIMS : Nat := NC_MAX_INT
def MIN_NC_XSZ : Nat := 32
def NC_DIMENSION : Nat := 10
def NC_VARIABLE : Nat := 11
def NC_ATTRIBUTE : Nat := 12

inductive Err where
  | enotnc | enotnc3 | emaxname | emaxdims | emaxatts | emaxvars | ebadtype | ebaddim
  | eunlimpos | eunlimit | evarsize | eintoverflow
  deriving DecidableEq, Repr, Inhabited

/-- numeric NC_* code -/
def Err.code : Err → Int
  | .enotnc => -51 | .enotnc3 => -113 | .emaxname => -53 | .emaxdims => -41 | .emaxatts => -44
  | .emaxvars => -48 | .ebadtype => -45 | .ebaddim => -46 | .eunlimpos => -47 | .eunlimit => -54
  | .evarsize => -62 | .eintoverflow => -221

/-- PNETCDF_RNDUP(x, unit) -/
def rndup (x unit : Nat) : Nat := (x + unit - 1) / unit * unit

def zeros (n : Nat) : Bytes := List.replicate n 0

/-- `n` bytes from the front of `s`, zero-extended when `s` is shorter
    (a short read of the header leaves the rest of the buffer zeroed) -/
def ztake (n : Nat) (s : Bytes) : Bytes := s.take n ++ zeros (n - s.length)

/-- ncmpix_get_uint32 / ncmpix_get_uint64: big-endian value -/
def beNat (bs : Bytes) : Nat := bs.foldl (fun acc b => acc * 256 + b.toNat) 0

/-- ncmpix_put_uint32 of `(uint)n` -/
def be32 (n : Nat) : Bytes :=
  [UInt8.ofNat (n / 16777216), UInt8.ofNat (n / 65536), UInt8.ofNat (n / 256), UInt8.ofNat n]

/-- ncmpix_put_uint64 of `(uint64)n` -/
def be64 (n : Nat) : Bytes :=
  [UInt8.ofNat (n / 72057594037927936), UInt8.ofNat (n / 281474976710656), UInt8.ofNat (n / 1099511627776),
   UInt8.ofNat (n / 4294967296), UInt8.ofNat (n / 16777216), UInt8.ofNat (n / 65536), UInt8.ofNat (n / 256),
   UInt8.ofNat n]

/-! ### writer: ncmpio_header_put.c -/

/-- a NON_NEG field: 4 bytes for CDF-1/2, 8 bytes for CDF-5 -/
def putNonNeg (ver : Nat) (n : Nat) : Bytes := if ver < 5 then be32 n else be64 n

/-- strlen(): hdr_put_NC_name writes strlen(name) characters -/
def cstr (name : Bytes) : Bytes := name.takeWhile (fun b => b != 0)

/-- hdr_put_NC_name + ncmpix_pad_putn_text -/
def putName (ver : Nat) (name : Bytes) : Bytes :=
  let s := cstr name
  let nchars := s.length
  let rnd := nchars % 4
  let rnd := if rnd ≠ 0 then 4 - rnd else 0
  putNonNeg ver nchars ++ s ++ zeros rnd

def putDim (ver : Nat) (d : Dim) : Bytes := putName ver d.name ++ putNonNeg ver d.size

def putDimArray (ver : Nat) (ds : List Dim) : Bytes :=
  if ds.length = 0 then be32 0 ++ putNonNeg ver 0
  else be32 NC_DIMENSION ++ putNonNeg ver ds.length ++ ds.flatMap (putDim ver)

/-- x_len_NC_attrV: space of `nelems` values, 4-byte aligned -/
def xlenAttrV (t : NcType) (nelems : Nat) : Nat :=
  match t with
  | .byte | .char | .ubyte => rndup nelems 4
  | .short | .ushort => (nelems + nelems % 2) * 2
  | .int | .uint | .float => nelems * 4
  | .double | .int64 | .uint64 => nelems * 8

/-- attrp->xsz as set by ncmpio_new_NC_attr -/
def attrXsz (a : Att) : Nat := if a.nelems > 0 then xlenAttrV a.xtype a.nelems else 0

/-- hdr_put_NC_attrV: memcpy of `sz` value bytes, memset of the padding -/
def putAttrV (a : Att) : Bytes :=
  let sz := a.nelems * a.xtype.size
  let padding := attrXsz a - sz
  ztake sz a.xvalue ++ zeros padding

def putAttr (ver : Nat) (a : Att) : Bytes :=
  putName ver a.name ++ be32 a.xtype.code ++ putNonNeg ver a.nelems ++
    (if a.nelems > 0 then putAttrV a else [])

def putAttrArray (ver : Nat) (as : List Att) : Bytes :=
  if as.length = 0 then be32 0 ++ putNonNeg ver 0
  else be32 NC_ATTRIBUTE ++ putNonNeg ver as.length ++ as.flatMap (putAttr ver)

/-- the `begin` field: 4 bytes in CDF-1, 8 bytes otherwise -/
def putBegin (ver : Nat) (b : Nat) : Bytes := if ver = 1 then be32 b else be64 b

/-- hdr_put_NC_var, the vsize field written as it stands in `v.vsize` -/
def putVar (ver : Nat) (v : Var) : Bytes :=
  putName ver v.name ++ putNonNeg ver v.dimids.length ++ v.dimids.flatMap (putNonNeg ver) ++
    putAttrArray ver v.atts ++ be32 v.xtype.code ++ putNonNeg ver v.vsize ++ putBegin ver v.begin

def putVarArray (ver : Nat) (vs : List Var) : Bytes :=
  if vs.length = 0 then be32 0 ++ putNonNeg ver 0
  else be32 NC_VARIABLE ++ putNonNeg ver vs.length ++ vs.flatMap (putVar ver)

def magicBytes (f : Fmt) : Bytes := [0x43, 0x44, 0x46, UInt8.ofNat f.version]

/-- ncmpio_hdr_put_NC with every field written as stored in `h` (in particular the vsize
    fields): this is also the *specification encoder* of the C04 harness, able to emit layouts
    PnetCDF never writes (gaps, stale or saturated vsize, …) -/
def encodeRaw (h : Hdr) : Bytes :=
  let ver := h.fmt.version
  magicBytes h.fmt ++ putNonNeg ver h.numrecs ++ putDimArray ver h.dims ++ putAttrArray ver h.gatts ++
    putVarArray ver h.vars

/-- the vsize computation of hdr_put_NC_var from the in-memory `varp->len` -/
def satVsize (ver : Nat) (len : Nat) : Nat :=
  if ver < 5 then (if len > 4294967292 then 4294967295 else len) else len

/-- the header as the library holds it at write time: vsize fields come from the variable lengths -/
def withLens (h : Hdr) (lens : List Nat) : Hdr :=
  { h with vars := (h.vars.zip lens).map (fun (v, l) => { v with vsize := satVsize h.fmt.version l }) }

/-- the NC_EINTOVERFLOW guards of ncmpio_hdr_put_NC, in the order the C meets them -/
def attrChecks (ver : Nat) (as : List Att) : Except Err Unit :=
  as.forM (fun a =>
    if ver < 5 ∧ a.nelems > NC_MAX_INT then .error .eintoverflow
    else if a.nelems > 0 ∧ ver < 5 ∧ a.nelems * a.xtype.size > NC_MAX_INT then .error .eintoverflow
    else .ok ())

def encodeChecks (h : Hdr) : Except Err Unit := do
  let ver := h.fmt.version
  if ver < 5 ∧ h.numrecs > NC_MAX_INT then .error .eintoverflow
  h.dims.forM (fun d => if ver < 5 ∧ d.size > NC_MAX_INT then .error .eintoverflow else .ok ())
  attrChecks ver h.gatts
  h.vars.forM (fun v => do
    attrChecks ver v.atts
    if ver = 1 ∧ v.begin > NC_MAX_INT then .error .eintoverflow else .ok ())

/-- ncmpio_hdr_put_NC on an NC object whose variables have the lengths `lens` -/
def Hdr.encode (h : Hdr) (lens : List Nat) : Except Err Bytes := do
  encodeChecks h
  pure (encodeRaw (withLens h lens))

/-! ### header size: hdr_len_NC_* in ncmpio_header_get.c -/

def sizeofNonNeg (ver : Nat) : Nat := if ver = 5 then 8 else 4
def sizeofOff (ver : Nat) : Nat := if ver = 5 then 8 else if ver = 2 then 8 else 4

def lenDim (w : Nat) (d : Dim) : Nat := w + rndup d.name.length 4 + w

def lenDimArray (w : Nat) (ds : List Dim) : Nat := 4 + w + (ds.map (lenDim w)).sum

def lenAttr (w : Nat) (a : Att) : Nat := w + rndup a.name.length 4 + 4 + w + attrXsz a

def lenAttrArray (w : Nat) (as : List Att) : Nat := 4 + w + (as.map (lenAttr w)).sum

def lenVar (w o : Nat) (v : Var) : Nat :=
  w + rndup v.name.length 4 + w + w * v.dimids.length + lenAttrArray w v.atts + 4 + w + o

def lenVarArray (w o : Nat) (vs : List Var) : Nat := 4 + w + (vs.map (lenVar w o)).sum

/-- ncmpio_hdr_len_NC -/
def Hdr.len (h : Hdr) : Nat :=
  let w := sizeofNonNeg h.fmt.version
  let o := sizeofOff h.fmt.version
  4 + w + lenDimArray w h.dims + lenAttrArray w h.gatts + lenVarArray w o h.vars

/-! ### reader program -/

/-- reader programs over the four primitive reads of ncmpio_header_get.c -/
inductive P (α : Type) : Type where
  | ret   : α → P α
  | fail  : Err → P α
  | u32   : (Nat → P α) → P α                 -- hdr_get_uint32 (also hdr_get_NC_tag, hdr_get_nc_type)
  | u64   : (Nat → P α) → P α                 -- hdr_get_uint64
  | bytes : Nat → (Bytes → P α) → P α         -- the copy loop of hdr_get_NC_name / hdr_get_NC_attrV
  | pad   : Fin 4 → P α → P α                 -- "handle the padding": skip ≤ 3 bytes

def P.bind {α β : Type} : P α → (α → P β) → P β
  | .ret a, f => f a
  | .fail e, _ => .fail e
  | .u32 k, f => .u32 (fun n => (k n).bind f)
  | .u64 k, f => .u64 (fun n => (k n).bind f)
  | .bytes n k, f => .bytes n (fun b => (k b).bind f)
  | .pad p k, f => .pad p (k.bind f)

instance : Monad P where
  pure := P.ret
  bind := P.bind

def getU32 : P Nat := .u32 .ret
def getU64 : P Nat := .u64 .ret
def getBytes (n : Nat) : P Bytes := .bytes n .ret

/-- `if (gbp->version < 5) hdr_get_uint32 else hdr_get_uint64` -/
def getNonNeg (ver : Nat) : P Nat := if ver < 5 then getU32 else getU64

theorem rndup4_eq (n : Nat) : rndup n 4 = n + Spec.padLen n := by
  unfold rndup Spec.padLen; omega

theorem rndup4_sub_lt (n : Nat) : rndup n 4 - n < 4 := by
  rw [rndup4_eq, Nat.add_sub_cancel_left]; exact Nat.mod_lt _ (by decide)

/-- hdr_get_NC_name -/
def getName (ver : Nat) : P Bytes := do
  let nchars ← getNonNeg ver
  if nchars > NC_MAX_NAME then .fail .emaxname else
  let s ← getBytes nchars
  let padding : Fin 4 := ⟨rndup nchars 4 - nchars, rndup4_sub_lt nchars⟩
  if padding.val > 0 then .pad padding (.ret s) else .ret s

/-- hdr_get_NC_dim; `haveUnlim` is `unlimited_id != -1` -/
def getDim (ver : Nat) (haveUnlim : Bool) : P Dim := do
  let name ← getName ver
  let dimLength ← getNonNeg ver
  if haveUnlim ∧ dimLength = 0 then .fail .eunlimit else
  .ret { name := name, size := dimLength }

/-- the loop of hdr_get_NC_dimarray -/
def getDims (ver : Nat) : Nat → Bool → P (List Dim)
  | 0, _ => .ret []
  | n + 1, haveUnlim => do
    let d ← getDim ver haveUnlim
    let ds ← getDims ver n (haveUnlim || d.size == 0)
    .ret (d :: ds)

/-- hdr_get_NC_dimarray / hdr_get_NC_attrarray / hdr_get_NC_vararray are the same text up to the
    tag, the limit and its error code: read tag and nelems, check the limit, accept any tag when
    nelems = 0, otherwise demand the tag and run the item loop -/
def getArray {α : Type} (ver : Nat) (tagWant maxN : Nat) (errMax : Err) (items : Nat → P (List α)) : P (List α) := do
  let tag ← getU32
  let ndefined ← getNonNeg ver
  if ndefined > maxN then .fail errMax else
  if ndefined = 0 then .ret [] else
  if tag ≠ tagWant then .fail .enotnc else
  items ndefined

/-- hdr_get_NC_dimarray -/
def getDimArray (ver : Nat) : P (List Dim) :=
  getArray ver NC_DIMENSION NC_MAX_DIMS .emaxdims (fun n => getDims ver n false)

/-- hdr_get_nc_type -/
def getType (ver : Nat) : P NcType := do
  let xtype ← getU32
  if xtype < 1 then .fail .ebadtype else
  if ver < 5 ∧ xtype > 6 then .fail .ebadtype else
  if ¬ ver < 5 ∧ xtype > 11 then .fail .ebadtype else
  match NcType.ofCode xtype with
  | some t => .ret t
  | none => .fail .ebadtype          -- not reachable: 1 ≤ xtype ≤ 11 here

theorem xlenAttrV_eq (t : NcType) (n : Nat) : xlenAttrV t n = rndup (n * t.size) 4 := by
  cases t <;> simp [xlenAttrV, NcType.size, rndup] <;> omega

theorem xlenAttrV_sub_lt (t : NcType) (n : Nat) : xlenAttrV t n - n * t.size < 4 := by
  rw [xlenAttrV_eq]; exact rndup4_sub_lt _

/-- hdr_get_NC_attr (ncmpio_new_NC_attr + hdr_get_NC_attrV) -/
def getAttr (ver : Nat) : P Att := do
  let name ← getName ver
  let type ← getType ver
  let nelems ← getNonNeg ver
  -- hdr_get_NC_attrV: nbytes = nelems * xsz, padding = attrp->xsz - nbytes
  let nbytes := nelems * type.size
  let xsz := if nelems > 0 then xlenAttrV type nelems else 0
  let padding : Fin 4 := ⟨xsz - nbytes, by
    show (if nelems > 0 then xlenAttrV type nelems else 0) - nelems * type.size < 4
    split
    · exact xlenAttrV_sub_lt type nelems
    · omega⟩
  let value ← getBytes nbytes
  let a : Att := { name := name, xtype := type, nelems := nelems, xvalue := value }
  if padding.val > 0 then .pad padding (.ret a) else .ret a

/-- `n` items in sequence (the for-loops of the *array readers) -/
def getN {α : Type} (item : P α) : Nat → P (List α)
  | 0 => .ret []
  | n + 1 => do
    let x ← item
    let xs ← getN item n
    .ret (x :: xs)

/-- hdr_get_NC_attrarray -/
def getAttrArray (ver : Nat) : P (List Att) :=
  getArray ver NC_ATTRIBUTE NC_MAX_ATTRS .emaxatts (fun n => getN (getAttr ver) n)

/-- one `dimid` of hdr_get_NC_var -/
def getDimid (ver : Nat) (fNdims : Nat) : P Nat := do
  let tmp ← getNonNeg ver
  if tmp ≥ fNdims then .fail .ebaddim else .ret tmp

/-- the `begin` field: `if (gbp->version == 1) hdr_get_uint32 else hdr_get_uint64` -/
def getBegin (ver : Nat) : P Nat := if ver = 1 then getU32 else getU64

/-- hdr_get_NC_var -/
def getVar (ver : Nat) (fNdims : Nat) : P Var := do
  let name ← getName ver
  let ndims ← getNonNeg ver
  if ndims > NC_MAX_VAR_DIMS then .fail .emaxdims else
  let dimids ← getN (getDimid ver fNdims) ndims
  let atts ← getAttrArray ver
  let xtype ← getType ver
  let vsize ← getNonNeg ver
  let begin_ ← getBegin ver
  .ret { name := name, dimids := dimids, atts := atts, xtype := xtype, vsize := vsize, begin := begin_ }

/-- hdr_get_NC_vararray -/
def getVarArray (ver : Nat) (fNdims : Nat) : P (List Var) :=
  getArray ver NC_VARIABLE NC_MAX_VARS .emaxvars (fun n => getN (getVar ver fNdims) n)

/-- the part of ncmpio_hdr_get_NC after the magic: numrecs, dim_list, gatt_list, var_list -/
def getBody (f : Fmt) : P Hdr := do
  let ver := f.version
  let numrecs ← getNonNeg ver
  let dims ← getDimArray ver
  let gatts ← getAttrArray ver
  let vars ← getVarArray ver dims.length
  .ret { fmt := f, numrecs := numrecs, dims := dims, gatts := gatts, vars := vars }

/-! ### readers -/

structure Reader (σ : Type) where
  u32   : σ → Nat × σ
  u64   : σ → Nat × σ
  bytes : Nat → σ → Bytes × σ
  pad   : Nat → σ → σ

def run {σ α : Type} (r : Reader σ) : P α → σ → Except Err (α × σ)
  | .ret a, s => .ok (a, s)
  | .fail e, _ => .error e
  | .u32 k, s => let p := r.u32 s; run r (k p.1) p.2
  | .u64 k, s => let p := r.u64 s; run r (k p.1) p.2
  | .bytes n k, s => let p := r.bytes n s; run r (k p.1) p.2
  | .pad p k, s => run r k (r.pad p.val s)

/-- the flat reader: the state is the rest of the file; reads past the end see zeros -/
def flatR : Reader Bytes where
  u32 s := (beNat (ztake 4 s), s.drop 4)
  u64 s := (beNat (ztake 8 s), s.drop 8)
  bytes n s := (ztake n s, s.drop n)
  pad k s := s.drop k

/-- the read window of `bufferinfo`: `buf` = base[0..chunk), `pos` = gbp->pos - gbp->base,
    `off` = gbp->offset (file offset of the next read) -/
structure Win where
  buf : Bytes
  pos : Nat
  off : Nat
  deriving Repr

/-- hdr_fetch (rank 0's view; the other ranks receive the same buffer by MPI_Bcast) -/
def fetch (file : Bytes) (chunk : Nat) (w : Win) : Win :=
  let slack := chunk - w.pos
  let slack := if slack = chunk then 0 else slack
  let readLen := chunk - slack
  -- memmove(base, pos, slack); read readLen bytes at `offset` to base+slack, zero-fill a short read
  { buf := (w.buf.drop w.pos).take slack ++ ztake readLen (file.drop w.off)
    pos := 0
    off := w.off + readLen }

/-- hdr_get_uint32 (k = 4) / hdr_get_uint64 (k = 8): fetch if fewer than k bytes are left -/
def getFixedW (file : Bytes) (chunk : Nat) (k : Nat) (w : Win) : Bytes × Win :=
  let w1 := if w.pos + k > chunk then fetch file chunk w else w
  ((w1.buf.drop w1.pos).take k, { w1 with pos := w1.pos + k })

/-- the `while (nchars > 0)` copy loop of hdr_get_NC_name / hdr_get_NC_attrV.  The C alternates
    "copy min(bufremain, n)" and "fetch when bufremain == 0"; here one iteration does the fetch (if
    needed) and the copy that follows it. -/
def getBytesW (file : Bytes) (chunk : Nat) (n : Nat) (w : Win) (acc : Bytes) : Bytes × Win :=
  if hn : n = 0 then (acc, w) else
  let w1 := if chunk - w.pos = 0 then fetch file chunk w else w
  if hk : min (chunk - w1.pos) n = 0 then (acc, w1)      -- not reachable when chunk > 0 (the C would spin)
  else getBytesW file chunk (n - min (chunk - w1.pos) n)
         { w1 with pos := w1.pos + min (chunk - w1.pos) n }
         (acc ++ (w1.buf.drop w1.pos).take (min (chunk - w1.pos) n))
termination_by n
decreasing_by
  simp only [w1] at hk
  omega

/-- "handle the padding": `if (pos + padding > end) hdr_fetch; pos += padding` -/
def padW (file : Bytes) (chunk : Nat) (k : Nat) (w : Win) : Win :=
  let w1 := if w.pos + k > chunk then fetch file chunk w else w
  { w1 with pos := w1.pos + k }

def winR (file : Bytes) (chunk : Nat) : Reader Win where
  u32 w := let r := getFixedW file chunk 4 w; (beNat r.1, r.2)
  u64 w := let r := getFixedW file chunk 8 w; (beNat r.1, r.2)
  bytes n w := getBytesW file chunk n w []
  pad k w := padW file chunk k w

/-! ### post-pass of ncmpio_hdr_get_NC: shapes, lengths, offsets -/

structure Info where
  xsz      : Nat
  beginVar : Nat
  beginRec : Nat
  recsize  : Nat
  numRecVars : Nat
  shapes   : List (List Nat)
  lens     : List Nat
  deriving DecidableEq, Repr, Inhabited

/-- IS_RECVAR on a computed shape -/
def isRecShape (shape : List Nat) : Bool :=
  match shape with
  | [] => false
  | s0 :: _ => s0 == 0

/-- the shape[] loop of ncmpio_NC_var_shape64 (`i` = index of the first element of `ids`) -/
def shapeOf (dims : List Dim) : List Nat → Nat → Except Err (List Nat)
  | [], _ => .ok []
  | id :: ids, i =>
    match dims[id]? with
    | none => .error .ebaddim       -- not reachable: dimids were checked by hdr_get_NC_var / def_var
    | some d =>
      if d.size = 0 ∧ i ≠ 0 then .error .eunlimpos
      else match shapeOf dims ids (i + 1) with
        | .ok sh => .ok (d.size :: sh)
        | .error e => .error e

/-- ncmpio_NC_check_vlen: is xsz * Π shape[i] (i from 1 for a record variable) ≤ vlen_max,
    computed without overflow -/
def checkVlenLoop (vlenMax : Nat) : List Nat → Nat → Bool
  | [], _ => true
  | s :: rest, prod =>
    if prod = 0 then false          -- not reachable (the C would divide by zero): prod ≥ xsz ≥ 1
    else if s > vlenMax / prod then false
    else checkVlenLoop vlenMax rest (prod * s)

def checkVlen (xsz : Nat) (shape : List Nat) (vlenMax : Nat) : Bool :=
  checkVlenLoop vlenMax (if isRecShape shape then shape.drop 1 else shape) xsz

/-- the right-to-left product loop of ncmpio_NC_var_shape64 for ndims > 1:
    `product = shape[ndims-1]; for (i = ndims-2; i >= 0; i--) if (shape[i] != NC_UNLIMITED) product *= shape[i]` -/
def prodR : List Nat → Nat
  | [] => 1
  | [s] => s
  | s :: t => (if s ≠ 0 then s else 1) * prodR t

/-- `product` of ncmpio_NC_var_shape64 -/
def shapeProduct (shape : List Nat) : Nat :=
  match shape with
  | [] => 1
  | [s0] => if s0 = 0 then 1 else s0
  | _ => prodR shape

/-- dsizes[0] of ncmpio_NC_var_shape64 -/
def dsizes0 (shape : List Nat) : Nat :=
  match shape with
  | [] => 1
  | [s0] => if s0 = 0 then 1 else s0
  | _ => shapeProduct shape

/-- ncmpio_NC_var_shape64: (shape, len) -/
def varShape64 (dims : List Dim) (v : Var) : Except Err (List Nat × Nat) :=
  match shapeOf dims v.dimids 0 with
  | .error e => .error e
  | .ok shape =>
    if ¬ checkVlen v.xtype.size shape (NC_MAX_INT64 - 3) then .error .evarsize
    else
      let len := shapeProduct shape * v.xtype.size
      let len := if len % 4 > 0 then len + (4 - len % 4) else len
      .ok (shape, len)

structure CvsState where
  beginRec : Nat
  recsize  : Nat
  firstVar : Option Nat        -- begin of the first fixed variable
  firstRec : Option (Nat × Nat × Nat)   -- (begin, len, dsizes[0]*xsz) of the first record variable
  shapes   : List (List Nat)
  lens     : List Nat

/-- the loop of compute_var_shape -/
def cvsLoop (dims : List Dim) : List Var → CvsState → Except Err CvsState
  | [], st => .ok st
  | v :: vs, st =>
    match varShape64 dims v with
    | .error e => .error e
    | .ok (shape, len) =>
      let st := { st with shapes := st.shapes ++ [shape], lens := st.lens ++ [len] }
      if isRecShape shape then
        cvsLoop dims vs { st with
          firstRec := (match st.firstRec with | none => some (v.begin, len, dsizes0 shape * v.xtype.size) | some x => some x)
          recsize := st.recsize + len }
      else
        cvsLoop dims vs { st with
          firstVar := (match st.firstVar with | none => some v.begin | some x => some x)
          beginRec := v.begin + len }

/-- the `if (first_rec != NULL)` block of compute_var_shape: (begin_rec, recsize) -/
def cvsRec (st : CvsState) : Except Err (Nat × Nat) :=
  match st.firstRec with
  | none => .ok (st.beginRec, st.recsize)
  | some (fbegin, flen, fpacked) =>
    if st.beginRec > fbegin then .error .enotnc
    else .ok (fbegin, if st.recsize = flen then fpacked else st.recsize)

/-- the end of compute_var_shape: begin_var and the four sanity tests -/
def cvsFinish (xsz : Nat) (st : CvsState) : Except Err (Nat × Nat × Nat × List (List Nat) × List Nat) :=
  match cvsRec st with
  | .error e => .error e
  | .ok (beginRec, recsize) =>
    let beginVar := st.firstVar.getD beginRec      -- first_var != NULL ? first_var->begin : begin_rec
    if beginVar ≤ 0 ∨ xsz > beginVar ∨ beginRec ≤ 0 ∨ beginVar > beginRec then .error .enotnc
    else .ok (beginVar, beginRec, recsize, st.shapes, st.lens)

/-- compute_var_shape: (begin_var, begin_rec, recsize, shapes, lens).  With no variable the C
    leaves begin_var / begin_rec / recsize as calloc made them (0). -/
def computeVarShape (h : Hdr) (xsz : Nat) : Except Err (Nat × Nat × Nat × List (List Nat) × List Nat) :=
  if h.vars.length = 0 then .ok (0, 0, 0, [], []) else
  match cvsLoop h.dims h.vars { beginRec := xsz, recsize := 0, firstVar := none, firstRec := none, shapes := [], lens := [] } with
  | .error e => .error e
  | .ok st => cvsFinish xsz st

/-- first pass / second pass of ncmpio_NC_check_vlens over the variables of one kind:
    returns (number of too-large variables, was the last one too large) -/
def vlensPass (ver : Nat) (vlenMax : Nat) (wantRec : Bool) :
    List (Nat × List Nat) → Nat → Bool → Except Err (Nat × Bool)
  | [], cnt, last => .ok (cnt, last)
  | (xsz, shape) :: rest, cnt, last =>
    if isRecShape shape ≠ wantRec then vlensPass ver vlenMax wantRec rest cnt last
    else if ¬ checkVlen xsz shape vlenMax then
      if ver ≥ 5 then .error .evarsize
      else vlensPass ver vlenMax wantRec rest (cnt + 1) true
    else vlensPass ver vlenMax wantRec rest cnt false

/-- ncmpio_NC_check_vlens; `vs` = (xsz, shape) of every variable -/
def checkVlens (ver : Nat) (vs : List (Nat × List Nat)) : Except Err Unit :=
  if vs.length = 0 then .ok () else
  let vlenMax := if ver ≥ 5 then NC_MAX_INT64 - 3 else if ver = 2 then NC_MAX_UINT - 3 else NC_MAX_INT - 3
  let recCount := (vs.filter (fun p => isRecShape p.2)).length
  match vlensPass ver vlenMax false vs 0 false with
  | .error e => .error e
  | .ok (largeFix, last) =>
    if largeFix > 1 then .error .evarsize
    else if largeFix = 1 ∧ last = false then .error .evarsize
    else if recCount = 0 then .ok ()
    else if largeFix = 1 then .error .evarsize
    else match vlensPass ver vlenMax true vs 0 false with
      | .error e => .error e
      | .ok (largeRec, last) =>
        if largeRec > 1 then .error .evarsize
        else if largeRec = 1 ∧ last = false then .error .evarsize
        else .ok ()

/-- one pass of ncmpio_NC_check_voffs over the variables of one kind: (isRec, begin, len) -/
def voffsPass (wantRec : Bool) : List (Bool × Nat × Nat) → Nat → Except Err Nat
  | [], prevOff => .ok prevOff
  | (isRec, bg, len) :: rest, prevOff =>
    if isRec ≠ wantRec then voffsPass wantRec rest prevOff
    else if bg < prevOff then .error .enotnc
    else voffsPass wantRec rest (bg + len)

/-- ncmpio_NC_check_voffs (the in-definition-order variant that is compiled) -/
def checkVoffs (beginVar beginRec : Nat) (numRecVars : Nat) (vs : List (Bool × Nat × Nat)) : Except Err Unit :=
  if vs.length = 0 then .ok () else
  let numFix := vs.length - numRecVars
  let r : Except Err Unit :=
    if numFix = 0 then .ok () else
    match voffsPass false vs beginVar with
    | .error e => .error e
    | .ok prevOff => if beginRec < prevOff then .error .enotnc else .ok ()
  match r with
  | .error e => .error e
  | .ok () =>
    if numRecVars = 0 then .ok () else
    match voffsPass true vs beginRec with
    | .error e => .error e
    | .ok _ => .ok ()

/-- everything ncmpio_hdr_get_NC does after the var_list has been read -/
def postPass (h : Hdr) : Except Err Info :=
  let xsz := h.len
  match computeVarShape h xsz with
  | .error e => .error e
  | .ok (beginVar, beginRec, recsize, shapes, lens) =>
    let numRec := (shapes.filter isRecShape).length
    match checkVlens h.fmt.version ((h.vars.map (fun v => v.xtype.size)).zip shapes) with
    | .error e => .error e
    | .ok () =>
      match checkVoffs beginVar beginRec numRec
              ((shapes.map isRecShape).zip ((h.vars.map (fun v => v.begin)).zip lens)) with
      | .error e => .error e
      | .ok () =>
        .ok { xsz := xsz, beginVar := beginVar, beginRec := beginRec, recsize := recsize,
              numRecVars := numRec, shapes := shapes, lens := lens }

/-! ### ncmpio_hdr_get_NC -/

def hdf5Signature : Bytes := [0x89, 0x48, 0x44, 0x46, 0x0d, 0x0a, 0x1a, 0x0a]

/-- the magic test of ncmpio_hdr_get_NC on the first 12 bytes of the (zero-extended) file -/
def checkMagic (first12 : Bytes) : Except Err Fmt :=
  if first12.take 3 ≠ [0x43, 0x44, 0x46] then
    (if (first12.drop 4).take 8 = hdf5Signature then .error .enotnc3 else .error .enotnc)
  else
    let v := (first12.drop 3).take 1
    if v = [1] then .ok .cdf1 else if v = [2] then .ok .cdf2 else if v = [5] then .ok .cdf5 else .error .enotnc

/-- getbuf.chunk = PNETCDF_RNDUP(MAX(MIN_NC_XSZ+4, ncp->chunk), X_ALIGN) -/
def chunkOf (ncpChunk : Nat) : Nat := rndup (max (MIN_NC_XSZ + 4) ncpChunk) 4

/-- ncmpio_hdr_get_NC with ncp->chunk = `ncpChunk` -/
def decodeChunked (ncpChunk : Nat) (file : Bytes) : Except Err (Hdr × Info) :=
  let chunk := chunkOf ncpChunk
  -- first hdr_fetch: buffer empty (pos = base), offset 0
  let w0 := fetch file chunk { buf := zeros chunk, pos := 0, off := 0 }
  -- ncmpix_getn_text(magic, 4) straight from the buffer
  match checkMagic (w0.buf.take 12) with
  | .error e => .error e
  | .ok f =>
    match run (winR file chunk) (getBody f) { w0 with pos := 4 } with
    | .error e => .error e
    | .ok (h, _) =>
      match postPass h with
      | .error e => .error e
      | .ok info => .ok (h, info)

/-- the same with the whole file in view -/
def decodeWhole (file : Bytes) : Except Err (Hdr × Info) :=
  match checkMagic (ztake 12 file) with
  | .error e => .error e
  | .ok f =>
    match run flatR (getBody f) (file.drop 4) with
    | .error e => .error e
    | .ok (h, _) =>
      match postPass h with
      | .error e => .error e
      | .ok info => .ok (h, info)

/-! ### variant with the repair of finding FB2-1

  compute_var_shape as it stands returns early when there is no variable and leaves begin_var /
  begin_rec as calloc made them (0).  The repaired code sets begin_var = begin_rec = xsz in that
  case; nothing else changes (check_vlens / check_voffs return at once without variables).
  `fixed = false` is the code as it stands (`decodeWholeV false = decodeWhole`). -/

def fixInfo (fixed : Bool) (h : Hdr) (info : Info) : Info :=
  if fixed ∧ h.vars.length = 0 then { info with beginVar := info.xsz, beginRec := info.xsz } else info

def postPassV (fixed : Bool) (h : Hdr) : Except Err Info :=
  match postPass h with
  | .error e => .error e
  | .ok info => .ok (fixInfo fixed h info)

def decodeWholeV (fixed : Bool) (file : Bytes) : Except Err (Hdr × Info) :=
  match decodeWhole file with
  | .error e => .error e
  | .ok (h, info) => .ok (h, fixInfo fixed h info)

def decodeChunkedV (fixed : Bool) (ncpChunk : Nat) (file : Bytes) : Except Err (Hdr × Info) :=
  match decodeChunked ncpChunk file with
  | .error e => .error e
  | .ok (h, info) => .ok (h, fixInfo fixed h info)

end PnVerif.Header
