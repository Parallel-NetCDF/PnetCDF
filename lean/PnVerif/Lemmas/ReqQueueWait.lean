import PnVerif.Lemmas.ReqQueueLemmas
/-
  The subset path of extract_reqs and the post-I/O loop of req_commit.  Per queue, the state after
  loop 1 is known in closed form (`Marked`); the rest is a function of that state (`Extracted`).
-/
namespace PnVerif.ReqQueue

theorem QInv.ne_null {q : Q} {par : Int} {v : List Entry} (h : QInv q par v) :
    ∀ e ∈ v, e.c.id ≠ NC_REQ_NULL := by
  intro e he hn
  have := (h.ids e he).2.1
  rw [hn] at this
  exact absurd this (by decide)

theorem QInv.eq_nil_of_numReqs {q : Q} {par : Int} {v : List Entry} (h : QInv q par v) (h0 : q.numReqs = 0) :
    v = [] :=
  total_eq_zero h.noEmpty (h.rep.numReqs.symm.trans h0)

theorem QInv.ne_of_parity {q : Q} {par : Int} {v : List Entry} (h : QInv q par v) {rid : Int}
    (hr : rid % 2 ≠ par) : ∀ x ∈ v, x.c.id ≠ rid :=
  fun x hx he => hr (he ▸ (h.ids x hx).1)

theorem QInv.of_sublist {q q' : Q} {par : Int} {v v' : List Entry} (h : QInv q par v)
    (hs : v'.Sublist v) (hr : Rep q' v') (hm : q'.maxId = q.maxId) : QInv q' par v' := by
  refine ⟨hr, ?_, ?_, ?_, ?_, ?_⟩
  · intro e he; exact h.clean e (hs.subset he)
  · exact List.Pairwise.sublist hs h.distinct
  · intro e he; exact h.noEmpty e (hs.subset he)
  · intro e he; rw [hm]; exact h.ids e (hs.subset he)
  · intro hne; rw [hm]; apply h.maxPar; intro hv; rw [hv] at hs; exact hne (List.sublist_nil.mp hs)

/-- the repaired refusal path: `fClr(flag, NC_REQ_TO_FREE); status = NULL;` on one entry -/
def clearE (e : Entry) : Entry := { e with c := { e.c with toFree := false, status := none } }

theorem QInv.clear {q q' : Q} {par : Int} {v : List Entry} (h : QInv q par v) (hr : Rep q' (v.map clearE))
    (hm : q'.maxId = q.maxId) : QInv q' par (v.map clearE) := by
  refine ⟨hr, ?_, ?_, ?_, ?_, ?_⟩
  · intro e he; obtain ⟨x, _, rfl⟩ := List.mem_map.mp he; rfl
  · unfold Distinct; rw [List.pairwise_map]; exact h.distinct
  · intro e he; obtain ⟨x, hx, rfl⟩ := List.mem_map.mp he; exact h.noEmpty x hx
  · intro e he; obtain ⟨x, hx, rfl⟩ := List.mem_map.mp he; rw [hm]; exact h.ids x hx
  · intro hne; rw [hm]; apply h.maxPar; intro hv; rw [hv] at hne; exact hne rfl

section
variable {nc : NC} {num : Int} {ids : List Int} {st : Option (List Int)} {V : Variant}

theorem wait_ok {e : Ext} (hx : extract nc num ids st V = e) (h : e.err = NC_NOERR) :
    wait nc num ids st V =
      let nn := newNumrecs nc.numrecs (if V.numrecsAllLeads then e.nc.put.numLead else e.numWLead) e.nc.put.lead
      { nc := { put := (e.nc.put.cleanup e.numWLead).1, get := (e.nc.get.cleanup e.numRLead).1,
                numrecs := if e.numW > 0 ∧ nc.numrecs < nn then nn else nc.numrecs },
        ids := e.ids, st := e.st, err := NC_NOERR, ioPut := e.putList, ioGet := e.getList,
        donePut := (e.nc.put.cleanup e.numWLead).2, doneGet := (e.nc.get.cleanup e.numRLead).2 } := by
  subst hx
  exact if_neg (fun h' => h' h)

theorem wait_err : (wait nc num ids st V).err = (extract nc num ids st V).err := by
  by_cases h : (extract nc num ids st V).err = NC_NOERR
  · rw [wait_ok rfl h, h]
  · exact congrArg WaitRes.err (if_pos h)

end

theorem maxRecOf_ge (L : List Lead) : ∀ n, n ≤ maxRecOf n L := by
  induction L with
  | nil => intro n; exact Int.le_refl _
  | cons l ls ih =>
    intro n
    simp only [maxRecOf, List.foldl_cons]
    split
    · have := ih l.c.maxRec; unfold maxRecOf at this; omega
    · exact ih n

/-- the scan of req_commit over a lead list that is not longer than the bound: the maximum over
    the flagged leads -/
theorem newNumrecs_eq (n : Int) (k : Nat) (L : List Lead) (hk : L.length ≤ k) (h0 : 0 ≤ n) :
    newNumrecs n k L = maxRecOf n (L.filter (fun l => l.c.toFree)) := by
  unfold newNumrecs maxRecOf
  rw [List.take_of_length_le hk]
  induction L generalizing n with
  | nil => rfl
  | cons l ls ih =>
    have hk' : ls.length ≤ k := by simp at hk; omega
    simp only [List.foldl_cons, List.filter_cons]
    cases hf : l.c.toFree
    · simpa using ih n hk' h0
    · simp only [not_true_eq_false, or_false, if_true, List.foldl_cons]
      by_cases hm : l.c.maxRec < 0
      · -- the scan skips max_rec < 0, `maxRecOf` does not: no change either, since max_rec < 0 ≤ n
        rw [if_pos hm, if_neg (by omega)]; exact ih n hk' h0
      · rw [if_neg hm]; split
        · exact ih _ hk' (by omega)
        · exact ih n hk' h0

/-- the record count after a successful wait equals the blocking calls' whenever the scan of
    req_commit is not cut short by its bound (`hb`; it matters only when wait_getput(NC_REQ_WR) runs).
    `hW` is a case `NoEmpty` excludes; it keeps the statement free of the invariant. -/
theorem wait_numrecs {nc : NC} {num : Int} {ids : List Int} {st : Option (List Int)} {V : Variant} {e : Ext}
    (hx : extract nc num ids st V = e) (he : e.err = NC_NOERR) (h0 : 0 ≤ nc.numrecs)
    (hb : e.numW ≠ 0 → e.nc.put.lead.length ≤ (if V.numrecsAllLeads then e.nc.put.numLead else e.numWLead))
    (hL : e.numWLead = 0 → e.numW = 0)
    (hW : e.numW = 0 → e.numWLead ≠ 0 → e.nc.put.lead.filter (fun l => l.c.toFree) = []) :
    (wait nc num ids st V).nc.numrecs = maxRecOf nc.numrecs (wait nc num ids st V).donePut := by
  rw [wait_ok hx he]
  simp only [cleanup_done]
  by_cases hw : e.numW = 0
  · by_cases hl : e.numWLead = 0
    · simp [hw, hl, maxRecOf]
    · simp [hw, hl, hW hw hl, maxRecOf]
  · have hge := maxRecOf_ge (e.nc.put.lead.filter (fun l => l.c.toFree)) nc.numrecs
    rw [newNumrecs_eq _ _ _ (hb hw) h0, if_neg (fun h => hw (hL h))]
    split <;> omega

/-- one queue after loop 1 has processed the entries `done` of req_ids[]; `nLead`/`n` count what is
    flagged, `mine` selects the ids of this queue, `ok` says that no id has been rejected so far -/
def Marked (q0 : Q) (v : List Entry) (hasSt : Bool) (mine : Int → Prop) (done : List Int) (ok : Prop)
    (q : Q) (nLead n : Nat) : Prop :=
  q = { q0 with lead := canonLeads 0 (v.map (markBy hasSt done)) } ∧
  nLead = (flagged (v.map (markBy hasSt done))).length ∧ n = total (flagged (v.map (markBy hasSt done))) ∧
  (ok → ∀ rid ∈ done, mine rid → ∃ x ∈ v, x.c.id = rid)

section
variable {q0 q : Q} {v : List Entry} {hasSt : Bool} {mine : Int → Prop} {done : List Int} {ok : Prop} {nLead n : Nat}

theorem Marked.init (hR : Rep q0 v) (hc : Clean v) : Marked q0 v hasSt mine [] ok q0 0 0 := by
  have hv : v.map (markBy hasSt []) = v := List.map_id'' (fun _ => if_neg (by simp)) v
  have hf : flagged v = [] := List.filter_eq_nil_iff.mpr (fun e he => by simp [hc e he])
  refine ⟨?_, ?_, ?_, by simp⟩
  · rw [hv, ← hR.lead]
  · rw [hv, hf]; rfl
  · rw [hv, hf]; rfl

/-- an entry that leaves this queue as it is: an id of the other queue, NC_REQ_NULL, a rejected one -/
theorem Marked.skip {ok' : Prop} {rid : Int} (h : Marked q0 v hasSt mine done ok q nLead n)
    (hsame : v.map (markBy hasSt (done ++ [rid])) = v.map (markBy hasSt done))
    (hr : ok' → ok ∧ ¬ mine rid) : Marked q0 v hasSt mine (done ++ [rid]) ok' q nLead n := by
  obtain ⟨hq, hl, hn, h3⟩ := h
  refine ⟨hsame ▸ hq, hsame ▸ hl, hsame ▸ hn, fun hok r hrm hmine => ?_⟩
  rcases List.mem_append.mp hrm with hrm | hrm
  · exact h3 (hr hok).1 r hrm hmine
  · rw [List.mem_singleton.mp hrm] at hmine; exact absurd hmine (hr hok).2

theorem Marked.step {rid : Int} (h : Marked q0 v hasSt mine done ok q nLead n) (hc : Clean v) (hd : Distinct v) :
    match markLead (slotOf hasSt done.length) rid q.lead with
    | some r => Marked q0 v hasSt mine (done ++ [rid]) ok { q with lead := r.1 } (nLead + 1) (n + r.2)
    | none => ∀ {ok' : Prop}, ¬ ok' → Marked q0 v hasSt mine (done ++ [rid]) ok' q nLead n := by
  have hs := markE_markBy (hasSt := hasSt) (done := done) (rid := rid) hc hd
  obtain ⟨rfl, rfl, rfl, h3⟩ := h
  simp only [markLead_canon]
  cases hm : markE (slotOf hasSt done.length) rid (v.map (markBy hasSt done)) with
  | none =>
    rw [hm] at hs
    exact fun {_} hok => Marked.skip ⟨rfl, rfl, rfl, h3⟩ hs fun h => absurd h hok
  | some r =>
    rw [hm] at hs
    obtain ⟨h1, x, hx, hxid, hk⟩ := hs
    have hcnt := markE_counts hm
    rw [h1] at hcnt
    refine ⟨by simp only [h1], hcnt.1.symm, hcnt.2.symm, fun hok r' hrm hmine => ?_⟩
    rcases List.mem_append.mp hrm with hrm | hrm
    · exact h3 hok r' hrm hmine
    · exact ⟨x, hx, hxid.trans (List.mem_singleton.mp hrm).symm⟩

end

/-- invariant of loop 1 (`markLoop`) -/
def MI (nc0 : NC) (vP vG : List Entry) (hasSt : Bool) (done : List Int) (e : Ext) : Prop :=
  Marked nc0.put vP hasSt (fun r => r ≠ NC_REQ_NULL ∧ r % 2 = 0) done (e.err = NC_NOERR) e.nc.put e.numWLead e.numW ∧
  Marked nc0.get vG hasSt (fun r => r ≠ NC_REQ_NULL ∧ ¬ r % 2 = 0) done (e.err = NC_NOERR) e.nc.get e.numRLead e.numR ∧
  e.nc.numrecs = nc0.numrecs ∧ e.st.isSome = hasSt

theorem err_set_ne (err : Int) : (if err = NC_NOERR then NC_EINVAL_REQUEST else err) ≠ NC_NOERR := by
  split
  · decide
  · assumption

theorem markLoop_MI {nc0 : NC} {vP vG : List Entry} (hP : QInv nc0.put 0 vP) (hG : QInv nc0.get 1 vG)
    (hasSt : Bool) (ids : List Int) :
    ∀ (i : Nat) (done : List Int) (e : Ext), i = done.length → MI nc0 vP vG hasSt done e →
      MI nc0 vP vG hasSt (done ++ ids) (markLoop i ids e) := by
  induction ids with
  | nil => intro i done e _ h; simpa [markLoop] using h
  | cons rid rest ih =>
    intro i done e hi h
    subst hi
    obtain ⟨mP, mG, hnr, rfl⟩ := h
    rw [show done ++ rid :: rest = (done ++ [rid]) ++ rest by simp]
    unfold markLoop
    simp only []
    have hst : ∀ f : List Int → List Int, (e.st.map f).isSome = e.st.isSome := fun f => by simp
    have other : ∀ {v : List Entry}, (∀ x ∈ v, x.c.id ≠ rid) →
        v.map (markBy e.st.isSome (done ++ [rid])) = v.map (markBy e.st.isSome done) :=
      fun h => List.map_congr_left fun x hx => markBy_snoc fun hr => absurd hr (h x hx)
    have sP := mP.step (rid := rid) hP.clean hP.distinct
    have sG := mG.step (rid := rid) hG.clean hG.distinct
    by_cases hn : rid = NC_REQ_NULL
    · rw [if_pos hn]
      exact ih _ _ _ (by simp) ⟨mP.skip (other (hn ▸ hP.ne_null)) fun h => ⟨h, fun m => m.1 hn⟩,
        mG.skip (other (hn ▸ hG.ne_null)) fun h => ⟨h, fun m => m.1 hn⟩, hnr, hst _⟩
    · rw [if_neg hn]
      by_cases hev : rid % 2 = 0
      · rw [if_pos hev]
        have oG := other (hG.ne_of_parity (by omega))
        cases hm : markLead (if e.st.isSome = true then some done.length else none) rid e.nc.put.lead with
        | some r =>
          simp only [slotOf, hm] at sP
          exact ih _ _ _ (by simp) ⟨sP, mG.skip oG fun h => ⟨h, fun m => m.2 hev⟩, hnr, hst _⟩
        | none =>
          simp only [slotOf, hm] at sP
          exact ih _ _ _ (by simp) ⟨sP (err_set_ne _), mG.skip oG fun h => absurd h (err_set_ne _), hnr, hst _⟩
      · rw [if_neg hev]
        have oP := other (hP.ne_of_parity (by omega))
        cases hm : markLead (if e.st.isSome = true then some done.length else none) rid e.nc.get.lead with
        | some r =>
          simp only [slotOf, hm] at sG
          exact ih _ _ _ (by simp) ⟨mP.skip oP fun h => ⟨h, fun m => hev m.2⟩, sG, hnr, hst _⟩
        | none =>
          simp only [slotOf, hm] at sG
          exact ih _ _ _ (by simp) ⟨mP.skip oP fun h => absurd h (err_set_ne _), sG (err_set_ne _), hnr, hst _⟩

theorem copyLead_isSome (rid : Int) (nl : List NonLead) (m : List Entry) : ∀ (o : Nat),
    (∃ x ∈ m, x.c.toFree = true ∧ x.c.id = rid) → (copyLead rid nl (canonLeads o m)).isSome = true := by
  induction m with
  | nil => intro o h; obtain ⟨x, hx, _⟩ := h; simp at hx
  | cons e es ih =>
    intro o h
    simp only [canonLeads, copyLead]
    by_cases hc : (e.c.toFree && decide (rid = e.c.id)) = true
    · simp [hc]
    · simp only [hc, Bool.false_eq_true, if_false]
      apply ih
      obtain ⟨x, hx, h1, h2⟩ := h
      rcases List.mem_cons.mp hx with rfl | hx
      · exfalso; apply hc; simp [h1, h2]
      · exact ⟨x, hx, h1, h2⟩

theorem copyLoop_ids (nc : NC) (ids : List Int)
    (h : ∀ rid ∈ ids, rid ≠ NC_REQ_NULL →
      (rid % 2 = 0 → (copyLead rid nc.put.nonlead nc.put.lead).isSome = true) ∧
      (¬ rid % 2 = 0 → (copyLead rid nc.get.nonlead nc.get.lead).isSome = true)) :
    (copyLoop nc ids).1 = nullIds ids := by
  induction ids with
  | nil => rfl
  | cons rid rest ih =>
    have ih' := ih (fun r hr => h r (List.mem_cons_of_mem _ hr))
    have hh := h rid List.mem_cons_self
    simp only [copyLoop, nullIds, List.map_cons]
    split
    · rename_i hn; simpa [nullIds, hn] using ih'
    · rename_i hn
      split
      · rename_i hev
        split
        · simpa [nullIds] using ih'
        · rename_i hc; simpa [hc] using (hh hn).1 hev
      · rename_i hev
        split
        · simpa [nullIds] using ih'
        · rename_i hc; simpa [hc] using (hh hn).2 hev

theorem compact_maxId (q : Q) (n : Nat) : (q.compact n).maxId = q.maxId := by
  unfold Q.compact; split <;> rfl

theorem cleanup_maxId (q : Q) (n : Nat) : (q.cleanup n).1.maxId = q.maxId := by
  unfold Q.cleanup; split <;> rfl

/-- the outcome of a wait on `ids` for one queue (`WaitExact` is two of these) -/
structure QDone (v : List Entry) (par : Int) (ids : List Int) (hasSt : Bool) (q' : Q) (done : List Lead) : Prop where
  inv : QInv q' par (v.filter (fun e => decide (e.c.id ∉ ids)))
  slot : ∀ l ∈ done, l.c.toFree = true ∧ (hasSt = true → ∃ i, l.c.status = some i ∧ ids[i]? = some l.c.id)

/-- what loops 2 and 3 of extract_reqs and the post-I/O loop of req_commit make of a queue in which
    loop 1 has flagged `nLead` leads with `n` non-lead requests -/
structure Extracted (v : List Entry) (par : Int) (ids : List Int) (hasSt : Bool) (mine : Int → Prop)
    (q : Q) (nLead n : Nat) : Prop where
  done : QDone v par ids hasSt ((q.compact n).cleanup nLead).1 ((q.compact n).cleanup nLead).2
  doneIds : ((q.compact n).cleanup nLead).2.map (fun l => l.c.id)
              = (v.filter (fun e => decide (e.c.id ∈ ids))).map (fun e => e.c.id)
  copied : ∀ rid ∈ ids, mine rid → (copyLead rid q.nonlead q.lead).isSome = true
  -- what `wait_numrecs` asks of the put queue (its `hb`, `hL`, `hW`)
  leadLength : (q.compact n).lead.length = (q.compact n).numLead
  noLead : nLead = 0 → n = 0
  noReqs : n = 0 → (q.compact n).lead.filter (fun l => l.c.toFree) = []

theorem Marked.result {q0 q : Q} {par : Int} {v : List Entry} {hasSt : Bool} {mine : Int → Prop} {ids : List Int}
    {nLead n : Nat} (h : Marked q0 v hasSt mine ids True q nLead n) (hq : QInv q0 par v) :
    Extracted v par ids hasSt mine q nLead n := by
  obtain ⟨hq', hl, hn, h3⟩ := h
  have hk := kept_map_markBy (hasSt := hasSt) (done := ids) hq.clean
  have hf := flagged_map_markBy (hasSt := hasSt) (done := ids) hq.clean
  have hR := hq.rep.congr_subs (map_markBy_subs (hasSt := hasSt) (done := ids) v)
  have hne : NoEmpty (v.map (markBy hasSt ids)) := by
    intro x hx; obtain ⟨y, hy, rfl⟩ := List.mem_map.mp hx; rw [markBy_subs]; exact hq.noEmpty y hy
  have hcp : ∀ rid ∈ ids, mine rid → ∃ y ∈ v.map (markBy hasSt ids), y.c.toFree = true ∧ y.c.id = rid := by
    intro rid hrid hr
    obtain ⟨x, hx, hxid⟩ := h3 trivial rid hrid hr
    exact ⟨_, List.mem_map_of_mem hx, by simp [markBy_toFree (hq.clean x hx), hxid, hrid], hxid ▸ markBy_id x⟩
  generalize v.map (markBy hasSt ids) = m at *
  subst hq' hl hn
  have hdone := compact_done_core hR (total (flagged m))
  have hcore := compact_lead_core hR (total (flagged m))
  refine ⟨⟨?_, fun l hl => ?_⟩, ?_, fun rid hrid hr => ?_, ?_, fun h0 => ?_, fun h0 => ?_⟩
  · exact hk ▸ hq.of_sublist (hk ▸ List.filter_sublist) (compact_cleanup_rep _ _ hR hne)
      ((cleanup_maxId _ _).trans (compact_maxId _ _))
  · have hlc : l.c ∈ (flagged m).map (fun e => e.c) := hdone ▸ List.mem_map_of_mem (f := fun l : Lead => l.c) hl
    rw [hf, List.map_map] at hlc
    obtain ⟨y, hy, hyc⟩ := List.mem_map.mp hlc
    have hin : y.c.id ∈ ids := of_decide_eq_true (List.mem_filter.mp hy).2
    rw [← hyc]
    simp only [Function.comp, markBy, hin, if_true, flagE]
    exact ⟨trivial, fun hs => ⟨ids.idxOf y.c.id, by simp [newStatus, slotOf, hs],
      by rw [List.getElem?_eq_getElem (List.idxOf_lt_length_of_mem hin), List.getElem_idxOf]⟩⟩
  · have := congrArg (List.map fun c : Core => c.id) hdone
    simpa [hf, List.map_map, Function.comp_def, markBy_id] using this
  · exact copyLead_isSome rid _ _ 0 (hcp rid hrid hr)
  · have h1 := congrArg List.length hcore
    simp only [List.length_map] at h1
    rw [h1, ← hR.numLead]
    unfold Q.compact; split <;> rfl
  · rw [List.eq_nil_of_length_eq_zero h0]; rfl
  · have hz := flagged_eq_nil_of_total hne h0
    exact List.map_eq_nil_iff.mp ((filter_toFree_core hcore).trans (by rw [hz]; rfl))

theorem Marked.cleared {q0 q : Q} {par : Int} {v : List Entry} {hasSt : Bool} {mine : Int → Prop} {ids : List Int}
    {ok : Prop} {nLead n : Nat} (h : Marked q0 v hasSt mine ids ok q nLead n) (hq : QInv q0 par v) :
    QInv { q with lead := clearMarks q.lead } par (v.map clearE) := by
  obtain ⟨rfl, -⟩ := h
  have hc : ∀ (o : Nat) (m : List Entry), clearMarks (canonLeads o m) = canonLeads o (m.map clearE) := by
    intro o m
    induction m generalizing o with
    | nil => rfl
    | cons e es ih =>
      simp only [canonLeads, clearMarks, List.map_cons] at ih ⊢
      rw [ih]; rfl
  have hm : (v.map (markBy hasSt ids)).map clearE = v.map clearE := by
    rw [List.map_map]
    exact List.map_congr_left fun x _ => by simp only [Function.comp, markBy]; split <;> rfl
  simp only [hc, hm]
  exact hq.clear (hq.rep.congr_subs (by simp [List.map_map, Function.comp_def, clearE])) rfl

theorem extract_subset {nc : NC} {num : Int} {ids : List Int} {st : Option (List Int)} {V : Variant}
    (h : SubsetPath nc num ids st V) :
    extract nc num ids st V =
      (let e := markLoop 0 ids { nc := nc, ids := ids, st := st }
       if e.err ≠ NC_NOERR then
         (if V.clearOnRefusal then
            { e with nc := { e.nc with put := { e.nc.put with lead := clearMarks e.nc.put.lead },
                                       get := { e.nc.get with lead := clearMarks e.nc.get.lead } } }
          else e)
       else
         let c := copyLoop e.nc ids
         { e with ids := c.1, putList := c.2.1, getList := c.2.2,
                  nc := { e.nc with put := e.nc.put.compact e.numW, get := e.nc.get.compact e.numR } }) := by
  unfold extract
  simp only [h.1, h.2.1, h.2.2.1, h.2.2.2, if_false]

theorem markLoop_inv {nc : NC} {vP vG : List Entry} (hP : QInv nc.put 0 vP) (hG : QInv nc.get 1 vG)
    (ids : List Int) (st : Option (List Int)) :
    MI nc vP vG st.isSome ids (markLoop 0 ids { nc := nc, ids := ids, st := st }) := by
  simpa using markLoop_MI hP hG st.isSome ids 0 [] { nc := nc, ids := ids, st := st } rfl
    ⟨Marked.init hP.rep hP.clean, Marked.init hG.rep hG.clean, rfl, rfl⟩

theorem extract_subset_ok {nc0 : NC} {vP vG : List Entry} (hP : QInv nc0.put 0 vP) (hG : QInv nc0.get 1 vG)
    {num : Int} {ids : List Int} {st : Option (List Int)} {V : Variant}
    (hsub : SubsetPath nc0 num ids st V) (herr : (wait nc0 num ids st V).err = NC_NOERR) :
    ∃ e : Ext, e.err = NC_NOERR ∧
      Marked nc0.put vP st.isSome (fun r => r ≠ NC_REQ_NULL ∧ r % 2 = 0) ids True e.nc.put e.numWLead e.numW ∧
      Marked nc0.get vG st.isSome (fun r => r ≠ NC_REQ_NULL ∧ ¬ r % 2 = 0) ids True e.nc.get e.numRLead e.numR ∧
      extract nc0 num ids st V =
        { e with ids := (copyLoop e.nc ids).1, putList := (copyLoop e.nc ids).2.1, getList := (copyLoop e.nc ids).2.2,
                 nc := { e.nc with put := e.nc.put.compact e.numW, get := e.nc.get.compact e.numR } } := by
  rw [wait_err] at herr
  have hmi := markLoop_inv hP hG ids st
  have hx := extract_subset hsub
  generalize markLoop 0 ids { nc := nc0, ids := ids, st := st } = e at hmi hx
  have he0 : e.err = NC_NOERR := by
    by_cases h : e.err = NC_NOERR
    · exact h
    · rw [hx] at herr
      simp only [ne_eq, h, not_false_eq_true, if_true] at herr
      split at herr <;> exact absurd herr h
  rw [hx]
  obtain ⟨hmP, hmG, -, -⟩ := hmi
  rw [he0, eq_self_iff_true] at hmP hmG
  exact ⟨e, he0, hmP, hmG, by simp only [ne_eq, he0, not_true_eq_false, if_false]⟩

/-- the result of a successful wait that takes the subset path -/
structure SubsetWait (vP vG : List Entry) (ids : List Int) (st : Option (List Int)) (r : WaitRes) : Prop where
  put : QDone vP 0 ids st.isSome r.nc.put r.donePut
  get : QDone vG 1 ids st.isSome r.nc.get r.doneGet
  nulled : r.ids = nullIds ids
  donePut : r.donePut.map (fun l => l.c.id) = (vP.filter (fun e => decide (e.c.id ∈ ids))).map (fun e => e.c.id)
  doneGet : r.doneGet.map (fun l => l.c.id) = (vG.filter (fun e => decide (e.c.id ∈ ids))).map (fun e => e.c.id)

theorem wait_subset {nc0 : NC} {vP vG : List Entry} (hP : QInv nc0.put 0 vP) (hG : QInv nc0.get 1 vG)
    {num : Int} {ids : List Int} {st : Option (List Int)} {V : Variant}
    (hsub : SubsetPath nc0 num ids st V) (herr : (wait nc0 num ids st V).err = NC_NOERR) :
    SubsetWait vP vG ids st (wait nc0 num ids st V) := by
  obtain ⟨e, he, mP, mG, hx⟩ := extract_subset_ok hP hG hsub herr
  have xP := mP.result hP
  have xG := mG.result hG
  rw [wait_ok hx he]
  exact ⟨xP.done, xG.done, copyLoop_ids _ _ fun rid hrid hn =>
      ⟨fun hev => xP.copied rid hrid ⟨hn, hev⟩, fun hev => xG.copied rid hrid ⟨hn, hev⟩⟩,
    xP.doneIds, xG.doneIds⟩

theorem wait_subset_numrecs {nc0 : NC} {vP vG : List Entry} (hP : QInv nc0.put 0 vP) (hG : QInv nc0.get 1 vG)
    {num : Int} {ids : List Int} {st : Option (List Int)} {V : Variant}
    (hsub : SubsetPath nc0 num ids st V) (herr : (wait nc0 num ids st V).err = NC_NOERR)
    (hV : V.numrecsAllLeads = true) (h0 : 0 ≤ nc0.numrecs) :
    (wait nc0 num ids st V).nc.numrecs = maxRecOf nc0.numrecs (wait nc0 num ids st V).donePut := by
  obtain ⟨e, he, mP, -, hx⟩ := extract_subset_ok hP hG hsub herr
  have xP := mP.result hP
  exact wait_numrecs hx he h0 (fun _ => by simp only [hV, if_true]; exact Nat.le_of_eq xP.leadLength)
    xP.noLead (fun h _ => xP.noReqs h)

/-- with the repair of F19, a refused wait leaves both queues in canonical form for the same pending
    requests (flags clear, status pointers reset) -/
theorem wait_refused_fixed {nc0 : NC} {vP vG : List Entry} (hP : QInv nc0.put 0 vP) (hG : QInv nc0.get 1 vG)
    {num : Int} {ids : List Int} {st : Option (List Int)} {V : Variant} (hV : V.clearOnRefusal = true)
    (hsub : SubsetPath nc0 num ids st V) (herr : (wait nc0 num ids st V).err ≠ NC_NOERR) :
    QInv (wait nc0 num ids st V).nc.put 0 (vP.map clearE) ∧ QInv (wait nc0 num ids st V).nc.get 1 (vG.map clearE) ∧
    (wait nc0 num ids st V).nc.numrecs = nc0.numrecs := by
  have hmi := markLoop_inv hP hG ids st
  have hx := extract_subset hsub
  generalize markLoop 0 ids { nc := nc0, ids := ids, st := st } = e at hmi hx
  have he : e.err ≠ NC_NOERR := by
    intro h0
    rw [wait_err, hx] at herr
    simp only [ne_eq, h0, not_true_eq_false, if_false] at herr
  simp only [ne_eq, he, not_false_eq_true, if_true, hV] at hx
  have hw : (wait nc0 num ids st V).nc = (extract nc0 num ids st V).nc := by
    unfold wait; rw [if_pos (by rw [hx]; exact he)]
  rw [hw, hx]
  exact ⟨hmi.1.cleared hP, hmi.2.1.cleared hG, hmi.2.2.1⟩

end PnVerif.ReqQueue
