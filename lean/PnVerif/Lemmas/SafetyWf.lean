import PnVerif.Model.Safety
import PnVerif.Lemmas.Decode
import PnVerif.Lemmas.PostPass
/-
  Lemmas/SafetyWf.lean — what a SUCCESSFUL run of the header reader guarantees about its result
  (postconditions of the reader programs of Model/Header.lean on the flat stream).
-/
namespace PnVerif.Safety
open PnVerif.Spec PnVerif.Header

/-- `p` below `q` with postcondition `Q`: on every stream a successful run of `p` is a successful run
    of `q` with the same result, and the result has `Q`.  With `q = p` this is a postcondition of `p`
    (`Post`); with a `p` that is `q` with additional tests it says that `p` is conservative. -/
def Sub {α : Type} (p q : P α) (Q : α → Prop) : Prop :=
  ∀ (s : Bytes) (a : α) (s' : Bytes), run flatR p s = .ok (a, s') → run flatR q s = .ok (a, s') ∧ Q a

abbrev Post {α : Type} (p : P α) (Q : α → Prop) : Prop := Sub p p Q

section
variable {α : Type} {Q R : α → Prop} {p q p' q' : P α} {c : Prop} [Decidable c] {e : Err}

theorem sub_ret {a : α} (h : Q a) : Post (.ret a) Q := by
  intro s a' s' hr
  cases hr
  exact ⟨rfl, h⟩

theorem sub_fail : Sub (.fail e) q Q := by
  intro s a' s' hr
  cases hr

theorem sub_bind {β : Type} {f g : α → P β} {Q : β → Prop}
    (hp : Sub p q R) (hf : ∀ a, R a → Sub (f a) (g a) Q) : Sub (p >>= f) (q >>= g) Q := by
  intro s b s' hr
  rw [bind_def, run_bind] at hr ⊢
  split at hr
  · rename_i a s1 h1
    rw [(hp s a s1 h1).1]
    exact hf a (hp s a s1 h1).2 s1 b s' hr
  · contradiction

theorem sub_true (p : P α) : Post p (fun _ => True) := fun _ _ _ h => ⟨h, trivial⟩

theorem sub_mono (h : Sub p q Q) (hqr : ∀ a, Q a → R a) : Sub p q R :=
  fun s a s' hr => ⟨(h s a s' hr).1, hqr a (h s a s' hr).2⟩

theorem sub_ite
    (h : c → Sub p q Q) (h' : ¬ c → Sub p' q' Q) : Sub (if c then p else p') (if c then q else q') Q := by
  split
  · exact h ‹_›
  · exact h' ‹_›

theorem sub_guard
    (h : ¬ c → Sub p q Q) : Sub (if c then .fail e else p) q Q := by
  split
  · exact sub_fail
  · exact h ‹_›

theorem sub_test
    (h : ¬ c → Sub p q Q) : Sub (if c then .fail e else p) (if c then .fail e else q) Q :=
  sub_ite (fun _ => sub_fail) h

theorem post_getBytes (n : Nat) : Post (getBytes n) (fun b => b.length = n) := by
  intro s a s' hr
  cases hr
  exact ⟨rfl, ztake_length n s⟩

theorem post_ite_pad {q : Fin 4} {a : α} (h : Q a) :
    Post (if c then P.pad q (.ret a) else .ret a) Q := by
  split
  · exact fun s a' s' hr => sub_ret h (s.drop q.val) a' s' hr
  · exact sub_ret h

end

theorem post_getName (ver : Nat) : Post (getName ver) (fun s => s.length ≤ NC_MAX_NAME) := by
  unfold getName
  refine sub_bind (sub_true _) fun nchars _ => sub_test fun hle => ?_
  exact sub_bind (post_getBytes nchars) fun s hs => post_ite_pad (by omega)

theorem post_getType (ver : Nat) : Post (getType ver) (fun t => ver < 5 → t.code ≤ 6) := by
  unfold getType
  refine sub_bind (sub_true _) fun xtype _ => sub_test fun h1 => sub_test fun h2 => sub_test fun h3 => ?_
  split
  · rename_i t ht
    refine sub_ret fun hv => ?_
    have := (ofCode_some ht).1
    omega
  · exact sub_fail

/-- an attribute as the reader returns it -/
structure AttOk (ver : Nat) (a : Att) : Prop where
  name  : a.name.length ≤ NC_MAX_NAME
  value : a.xvalue.length = a.nelems * a.xtype.size
  type  : ver < 5 → a.xtype.code ≤ 6

theorem post_getAttr (ver : Nat) : Post (getAttr ver) (AttOk ver) := by
  unfold getAttr
  refine sub_bind (post_getName ver) fun name hname => ?_
  refine sub_bind (post_getType ver) fun type htype => ?_
  refine sub_bind (sub_true _) fun nelems _ => ?_
  refine sub_bind (post_getBytes _) fun value hvalue => ?_
  exact post_ite_pad ⟨hname, hvalue, htype⟩

theorem sub_getN {α : Type} {p q : P α} {Q : α → Prop} (h : Sub p q Q) :
    ∀ n, Sub (getN p n) (getN q n) (fun xs => (∀ x ∈ xs, Q x) ∧ xs.length = n) := by
  intro n
  induction n with
  | zero => exact sub_ret ⟨fun x hx => (nomatch hx), rfl⟩
  | succ n ih =>
    refine sub_bind h fun x hx => sub_bind ih fun xs hxs => sub_ret ⟨?_, congrArg (· + 1) hxs.2⟩
    exact List.forall_mem_cons.mpr ⟨hx, hxs.1⟩

theorem sub_getArray {α : Type} {ver tagWant maxN : Nat} {errMax : Err} {f g : Nat → P (List α)}
    {Q : List α → Prop} (h0 : Q []) (h : ∀ n, n ≤ maxN → Sub (f n) (g n) Q) :
    Sub (getArray ver tagWant maxN errMax f) (getArray ver tagWant maxN errMax g) Q := by
  unfold getArray
  refine sub_bind (sub_true _) fun tag _ => sub_bind (sub_true _) fun ndefined _ => ?_
  refine sub_test fun hmax => sub_ite (fun _ => sub_ret h0) fun _ => sub_test fun _ => h ndefined (by omega)

theorem post_getAttrArray (ver : Nat) :
    Post (getAttrArray ver) (fun as => (∀ a ∈ as, AttOk ver a) ∧ as.length ≤ NC_MAX_ATTRS) := by
  unfold getAttrArray
  refine sub_getArray ⟨fun a ha => (nomatch ha), Nat.zero_le _⟩ fun n hn => ?_
  exact sub_mono (sub_getN (post_getAttr ver) n) fun xs hxs => ⟨hxs.1, by omega⟩

theorem post_getDim (ver : Nat) (hu : Bool) :
    Post (getDim ver hu) (fun d => d.name.length ≤ NC_MAX_NAME ∧ (hu = true → d.size ≠ 0)) := by
  unfold getDim
  refine sub_bind (post_getName ver) fun name hname => sub_bind (sub_true _) fun dimLength _ => ?_
  exact sub_test fun hnot => sub_ret ⟨hname, fun h1 h2 => hnot ⟨h1, h2⟩⟩

def zeroCount (ds : List Dim) : Nat := (ds.filter (fun d => d.size == 0)).length

theorem zeroCount_cons_le {d : Dim} {ds : List Dim} {hu : Bool} (hd : hu = true → d.size ≠ 0)
    (hds : zeroCount ds ≤ if (hu || d.size == 0) = true then 0 else 1) :
    zeroCount (d :: ds) ≤ if hu = true then 0 else 1 := by
  unfold zeroCount at hds ⊢
  rw [List.filter_cons]
  cases hu with
  | true =>
    have hz : (d.size == 0) = false := by simpa using hd rfl
    rw [hz]
    exact hds
  | false =>
    cases hz : d.size == 0
    · rw [hz] at hds
      exact hds
    · rw [hz] at hds
      exact Nat.succ_le_succ hds

theorem post_getDims (ver : Nat) : ∀ (n : Nat) (hu : Bool),
    Post (getDims ver n hu) (fun ds => (∀ d ∈ ds, d.name.length ≤ NC_MAX_NAME) ∧
      zeroCount ds ≤ (if hu then 0 else 1) ∧ ds.length = n) := by
  intro n
  induction n with
  | zero => exact fun hu => sub_ret ⟨fun d hd => (nomatch hd), Nat.zero_le _, rfl⟩
  | succ n ih =>
    intro hu
    refine sub_bind (post_getDim ver hu) fun d hd => sub_bind (ih (hu || d.size == 0)) fun ds hds => ?_
    exact sub_ret ⟨List.forall_mem_cons.mpr ⟨hd.1, hds.1⟩, zeroCount_cons_le hd.2 hds.2.1, congrArg (· + 1) hds.2.2⟩

theorem post_getDimArray (ver : Nat) :
    Post (getDimArray ver) (fun ds => (∀ d ∈ ds, d.name.length ≤ NC_MAX_NAME) ∧ zeroCount ds ≤ 1 ∧
      ds.length ≤ NC_MAX_DIMS) := by
  unfold getDimArray
  refine sub_getArray ⟨fun d hd => (nomatch hd), Nat.zero_le _, Nat.zero_le _⟩ fun n hn => ?_
  exact sub_mono (post_getDims ver n false) fun ds h => ⟨h.1, h.2.1, by omega⟩

theorem post_getDimid (ver fNdims : Nat) : Post (getDimid ver fNdims) (fun id => id < fNdims) := by
  unfold getDimid
  refine sub_bind (sub_true _) fun tmp _ => ?_
  exact sub_test fun h => sub_ret (Nat.not_le.mp h)

/-- a variable as the reader returns it -/
structure VarOk (ver nd : Nat) (v : Var) : Prop where
  name   : v.name.length ≤ NC_MAX_NAME
  dimids : ∀ id ∈ v.dimids, id < nd
  ndims  : v.dimids.length ≤ NC_MAX_VAR_DIMS
  atts   : ∀ a ∈ v.atts, AttOk ver a
  type   : ver < 5 → v.xtype.code ≤ 6

theorem post_getVar (ver nd : Nat) : Post (getVar ver nd) (VarOk ver nd) := by
  unfold getVar
  refine sub_bind (post_getName ver) fun name hname => ?_
  refine sub_bind (sub_true _) fun ndims _ => sub_test fun hnd => ?_
  refine sub_bind (sub_getN (post_getDimid ver nd) ndims) fun dimids hdimids => ?_
  refine sub_bind (post_getAttrArray ver) fun atts hatts => ?_
  refine sub_bind (post_getType ver) fun xtype htype => ?_
  refine sub_bind (sub_true _) fun vsize _ => sub_bind (sub_true _) fun begin_ _ => ?_
  exact sub_ret ⟨hname, hdimids.1, by simp only; omega, hatts.1, htype⟩

theorem post_getVarArray (ver nd : Nat) :
    Post (getVarArray ver nd) (fun vs => ∀ v ∈ vs, VarOk ver nd v) := by
  unfold getVarArray
  refine sub_getArray (fun v hv => nomatch hv) fun n _ => ?_
  exact sub_mono (sub_getN (post_getVar ver nd) n) fun xs h => h.1

/-- the header as ncmpio_hdr_get_NC holds it after the var_list has been read -/
structure HdrOk (h : Hdr) : Prop where
  dimNames : ∀ d ∈ h.dims, d.name.length ≤ NC_MAX_NAME
  oneRec   : zeroCount h.dims ≤ 1
  gatts    : ∀ a ∈ h.gatts, AttOk h.fmt.version a
  vars     : ∀ v ∈ h.vars, VarOk h.fmt.version h.dims.length v

theorem post_getBody (f : Fmt) : Post (getBody f) HdrOk := by
  unfold getBody
  refine sub_bind (sub_true _) fun numrecs _ => ?_
  refine sub_bind (post_getDimArray f.version) fun dims hdims => ?_
  refine sub_bind (post_getAttrArray f.version) fun gatts hgatts => ?_
  refine sub_bind (post_getVarArray f.version dims.length) fun vars hvars => ?_
  exact sub_ret ⟨hdims.1, hdims.2.1, hgatts.1, hvars⟩

/-- the shape loop lets the record dimension through at index 0 only (`i` = index of the head of `ids`) -/
theorem shapeOf_recFirst (d : Schema) : ∀ (ids : List Nat) (i : Nat) (sh : List Nat),
    shapeOf d.dims ids i = .ok sh → ∀ id ∈ ids.drop (1 - i), d.isRecDim id = false := by
  intro ids
  induction ids with
  | nil => exact fun i sh _ id hid => by rw [List.drop_nil] at hid; cases hid
  | cons a t ih =>
    intro i sh h id hid
    simp only [shapeOf] at h
    split at h
    · contradiction
    · rename_i dm hdm
      split at h
      · contradiction
      · rename_i hz
        split at h
        · rename_i sh' hsh
          have iht := ih (i + 1) sh' hsh id
          rw [Nat.sub_eq_zero_of_le (Nat.le_add_left 1 i), List.drop_zero] at iht
          by_cases hi : i = 0
          · subst hi
            exact iht hid
          · rw [Nat.sub_eq_zero_of_le (Nat.pos_of_ne_zero hi), List.drop_zero] at hid
            rcases List.mem_cons.mp hid with rfl | hid'
            · unfold Schema.isRecDim
              rw [hdm]
              exact beq_false_of_ne fun h0 => hz ⟨h0, hi⟩
            · exact iht hid'
        · contradiction

theorem varShape64_recFirst (d : Schema) (v : Var) (shape : List Nat) (len : Nat)
    (h : varShape64 d.dims v = .ok (shape, len)) : ∀ id ∈ v.dimids.drop 1, d.isRecDim id = false := by
  unfold varShape64 at h
  split at h
  · contradiction
  · rename_i sh hsh
    exact shapeOf_recFirst d _ 0 sh hsh

end PnVerif.Safety
