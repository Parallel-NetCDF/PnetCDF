import PnVerif.Lemmas.Safety
/-
  Lemmas/SafetyWork.lean — how much work the header reader does: bytes consumed on the zero-extended
  stream, bytes hdr_fetch asks MPI-IO for, the guarded reader, and the 40-byte witness of F14.
-/
namespace PnVerif.Safety
open PnVerif.Spec PnVerif.Header

theorem consumed_le_of_inBounds {α : Type} (p : P α) :
    ∀ (s : Bytes), inBounds p s = true → consumed p s ≤ s.length := by
  have step {n c : Nat} {b : Bool} {s : Bytes} (h : (decide (n ≤ s.length) && b) = true)
      (ih : b = true → c ≤ (s.drop n).length) : n + c ≤ s.length := by
    simp only [Bool.and_eq_true, decide_eq_true_eq] at h
    have := ih h.2
    rw [List.length_drop] at this
    omega
  induction p with
  | ret a => exact fun _ _ => Nat.zero_le _
  | fail e => exact fun _ _ => Nat.zero_le _
  | u32 k ih => exact fun s h => step h (ih _ _)
  | u64 k ih => exact fun s h => step h (ih _ _)
  | bytes n k ih => exact fun s h => step h (ih _ _)
  | pad q k ih => exact fun s h => step h (ih _)

/-- what an answer `g` of the guarded reader, started at stream position `c`, says about the
    unguarded run: the same result, or a read that ends beyond the limit and that the unguarded
    reader performs -/
def GuardOk {α : Type} (total limit c : Nat) (p : P α) (s : Bytes) : GRes α → Prop
  | .ok a r _ _ => run flatR p s = .ok (a, r)
  | .err e _ _ => run flatR p s = .error e
  | .big _ m _ => total + limit < m ∧ m ≤ c + consumed p s

theorem guardRun_ok {α : Type} (total limit : Nat) (p : P α) :
    ∀ (s : Bytes) (c : Nat) (wd : Bool), GuardOk total limit c p s (guardRun total limit p s c wd) := by
  -- `hr` and `hc` hold by unfolding `run` and `consumed` once; as hypotheses they keep `step` free of unfolding
  have step {p p' : P α} {s s' : Bytes} {c n : Nat} {b : Bool} {wd : Bool} {g : GRes α}
      (ih : GuardOk total limit (c + n) p' s' g)
      (hr : run flatR p s = run flatR p' s') (hc : consumed p s = n + consumed p' s') :
      GuardOk total limit c p s (if c + n > total + limit then .big b (c + n) wd else g) := by
    split
    · exact ⟨by omega, by omega⟩
    · cases g with
      | ok | err => exact hr.trans ih
      | big _ m _ => exact ⟨ih.1, by have := ih.2; omega⟩
  induction p with
  | ret a => exact fun _ _ _ => rfl
  | fail e => exact fun _ _ _ => rfl
  | u32 k ih => exact fun s c wd => step (ih _ _ _ _) rfl rfl
  | u64 k ih => exact fun s c wd => step (ih _ _ _ _) rfl rfl
  | bytes n k ih => exact fun s c wd => step (ih _ _ _ _) rfl rfl
  | pad q k ih => exact fun s c wd => step (ih _ _ _) rfl rfl

/-- the window reads ahead by at most one chunk -/
theorem bytesFetched_bounds (c : Nat) (file : Bytes) (f : Fmt) (hm : checkMagic (ztake 12 file) = .ok f) :
    4 + consumed (getBody f) (file.drop 4) ≤ bytesFetched c file ∧
    bytesFetched c file ≤ chunkOf c + 4 + consumed (getBody f) (file.drop 4) := by
  have hc := chunkOf_ge c
  obtain ⟨_, _, hnum, hpos⟩ := winRun_ok (by omega) (getBody f) _ _ (inv_body c file)
  dsimp only at hnum
  unfold bytesFetched
  simp only [fetch_init_eq, take12_ztake, hm]
  omega

theorem bytesFetched_nomagic (c : Nat) (file : Bytes) (e : Err) (hm : checkMagic (ztake 12 file) = .error e) :
    bytesFetched c file = chunkOf c := by
  unfold bytesFetched
  simp only [fetch_init_eq, take12_ztake, hm]

/-- 40 bytes: "CDF\x01", numrecs 0, dim_list ABSENT, gatt_list = NC_ATTRIBUTE 1 attribute, name "a",
    type NC_DOUBLE (6), nelems 0x7fffffff — and then the file ends -/
def witness40 : Bytes :=
  [0x43, 0x44, 0x46, 0x01,  0, 0, 0, 0,  0, 0, 0, 0,  0, 0, 0, 0,  0, 0, 0, 12,  0, 0, 0, 1,
   0, 0, 0, 1,  0x61, 0, 0, 0,  0, 0, 0, 6,  0x7f, 0xff, 0xff, 0xff]

theorem witness40_length : witness40.length = 40 := by decide

theorem witness40_magic : checkMagic (ztake 12 witness40) = .ok .cdf1 := by rfl

set_option maxRecDepth 100000 in
/-- the guarded reader stops at the attribute values: they would end at stream position
    4 + 32 + 8·(2^31 − 1) = 17 179 869 216 of a 40-byte file -/
theorem witness40_big :
    guardRun 40 65536 (getBody .cdf1) (witness40.drop 4) 4 false = .big true 17179869216 false := by rfl

theorem witness40_consumed : 17179869212 ≤ consumed (getBody .cdf1) (witness40.drop 4) := by
  have := guardRun_ok 40 65536 (getBody .cdf1) (witness40.drop 4) 4 false
  rw [witness40_big] at this
  exact Nat.le_of_add_le_add_left this.2

theorem witness40_fetched (c : Nat) : 17179869216 ≤ bytesFetched c witness40 := by
  have h1 := (bytesFetched_bounds c witness40 .cdf1 witness40_magic).1
  have h2 := witness40_consumed
  omega

end PnVerif.Safety
