import PnVerif.Lemmas.LayoutLemmas
import PnVerif.Props.C06
/-
  Bridge C03 → C06: the facts about a pair (layout before redef, layout NC_begins computes at the
  enddef of the redefinition) that the data-moving code of ncmpio__enddef relies on are DERIVED from
  the model of NC_begins (Model/Layout.lean) instead of being assumed.
-/
namespace PnVerif.Layout
open PnVerif.Spec PnVerif.Header PnVerif.Redef

/-- (old begin, new begin, len) of the fixed-size variables `vs` that existed before the redefinition:
    `os` = their begins in the old header, `ns` = the begins NC_begins assigned now (a list that may
    be longer: variables appended in this define phase) -/
def fixedMVars : List VarL → List Nat → List Nat → List MVar
  | v :: vs, o :: os, n :: ns => ⟨o, n, v.len, false⟩ :: fixedMVars vs os ns
  | _, _, _ => []

theorem fixedMVars_isRec : ∀ (vs : List VarL) (os ns : List Nat), ∀ w ∈ fixedMVars vs os ns, w.isRec = false := by
  intro vs os ns
  fun_induction fixedMVars vs os ns with
  | case1 v vs o os n ns ih =>
    intro w hw
    rcases List.mem_cons.mp hw with rfl | hw
    · rfl
    · exact ih w hw
  | case2 => exact fun w hw => nomatch hw

theorem fixedMVars_length (vs : List VarL) : ∀ (os ns : List Nat), os.length = vs.length → vs.length ≤ ns.length →
    (fixedMVars vs os ns).length = vs.length := by
  intro os ns
  fun_induction fixedMVars vs os ns with
  | case1 v vs o os n ns ih =>
    intro ho hn
    exact congrArg (· + 1) (ih (Nat.succ.inj ho) (Nat.le_of_succ_le_succ hn))
  | case2 vs os ns hne =>
    intro ho hn
    cases vs with
    | nil => rfl
    | cons v vs =>
      cases os with
      | nil => cases ho
      | cons o os =>
        cases ns with
        | nil => cases hn
        | cons n ns => exact absurd rfl (hne v vs o os n ns rfl rfl)

theorem chain_bounds : ∀ (vs es : List VarL) (os ns : List Nat) (prev : Nat),
    (chainOk vs os prev → ∀ w ∈ fixedMVars vs os ns,
      prev ≤ w.oldBegin ∧ w.oldBegin + w.len ≤ endOf vs os prev) ∧
    (chainOk (vs ++ es) ns prev → ∀ w ∈ fixedMVars vs os ns,
      prev ≤ w.newBegin ∧ w.newBegin + w.len ≤ endOf (vs ++ es) ns prev) := by
  intro vs es os ns
  fun_induction fixedMVars vs os ns with
  | case1 v vs o os n ns ih =>
    intro prev
    refine ⟨fun hc w hw => ?_, fun hc w hw => ?_⟩
    · have hle := (chainOk_le_endOf vs os (o + v.len) hc.2).1
      rcases List.mem_cons.mp hw with rfl | hw
      · exact ⟨hc.1, hle⟩
      · exact ⟨Nat.le_trans (Nat.le_trans hc.1 (Nat.le_add_right _ _)) ((ih _).1 hc.2 w hw).1, ((ih _).1 hc.2 w hw).2⟩
    · have hle := (chainOk_le_endOf (vs ++ es) ns (n + v.len) hc.2).1
      rcases List.mem_cons.mp hw with rfl | hw
      · exact ⟨hc.1, hle⟩
      · exact ⟨Nat.le_trans (Nat.le_trans hc.1 (Nat.le_add_right _ _)) ((ih _).2 hc.2 w hw).1, ((ih _).2 hc.2 w hw).2⟩
  | case2 => exact fun _ => ⟨fun _ w hw => (nomatch hw), fun _ w hw => (nomatch hw)⟩

/-- `FixedOK` (what move_fixed_vars needs) follows from: both layouts are chains and nothing moved down -/
theorem fixedOK_of_chains : ∀ (vs es : List VarL) (os ns : List Nat) (po pn : Nat),
    chainOk vs os po → chainOk (vs ++ es) ns pn → geOld os ns →
    PnVerif.Props.C06.FixedOK (fixedMVars vs os ns) := by
  intro vs es os ns
  fun_induction fixedMVars vs os ns with
  | case1 v vs o os n ns ih =>
    intro po pn hco hcn hge
    refine ⟨fun _ => ⟨hge.1, fun w hw _ => ?_⟩, ih _ _ hco.2 hcn.2 hge.2⟩
    exact ⟨((chain_bounds vs es os ns _).1 hco.2 w hw).1, ((chain_bounds vs es os ns _).2 hcn.2 w hw).1⟩
  | case2 => exact fun _ _ _ _ _ => trivial

/-- the first pass of NC_begins keeps every old begin once the first one is kept: if the running end,
    rounded up, does not exceed the old begin of the next old variable, and the old begins are a
    4-aligned chain, then each old variable gets exactly its old begin -/
theorem passFixed_keeps (fmt : Fmt) : ∀ (vs es : List VarL) (os : List Nat) (e po : Nat) (bs : List Nat) (e' : Nat),
    passFixed fmt (vs ++ es) os e = .ok (bs, e') → chainOk vs os po → (∀ o ∈ os, o % 4 = 0) →
    (∀ o, os.head? = some o → rndup e 4 ≤ o) →
    ∀ w ∈ fixedMVars vs os bs, w.newBegin = w.oldBegin := by
  intro vs es os e po bs
  fun_induction fixedMVars vs os bs generalizing e po with
  | case1 v vs o os n ns ih =>
    intro e' hp hc h4 hhead w hw
    obtain ⟨bs', hbs, hrec⟩ := passFixed_cons hp
    have hr : rndup e 4 ≤ o := hhead o rfl
    obtain ⟨rfl, rfl⟩ := List.cons.inj hbs
    have hn : max (rndup e 4) o = o := Nat.max_eq_right hr
    rcases List.mem_cons.mp hw with rfl | hw
    · exact hn
    · rw [show (o :: os).headD 0 = o from rfl, hn] at hrec
      refine ih _ _ _ hrec hc.2 (fun x hx => h4 x (List.mem_cons_of_mem _ hx)) (fun o2 ho2 => ?_) w hw
      cases os with
      | nil => cases ho2
      | cons o2' os' =>
        cases ho2
        cases vs with
        | nil => cases hw
        | cons v2 vs2 => exact rndup4_le_of_aligned _ _ hc.2.1 (h4 o2 (by simp))
  | case2 => exact fun _ _ _ _ _ w hw => nomatch hw

theorem sumLen_append (a b : List VarL) : sumLen (a ++ b) = sumLen a + sumLen b := by
  simp [sumLen, List.map_append, List.sum_append]

/-- appending record variables never shrinks the record size (needs packed ≤ padded length, which is
    how ncmpio_NC_var_shape64 computes `len`) -/
theorem specRecsize_mono (rs xs : List VarL) (hpk : ∀ v ∈ rs, v.packed ≤ v.len) :
    specRecsize rs ≤ specRecsize (rs ++ xs) := by
  cases rs with
  | nil => simp [specRecsize, sumLen]
  | cons v rs =>
    cases rs with
    | nil =>
      cases xs with
      | nil => simp
      | cons x xs =>
        have := hpk v (by simp)
        simp only [specRecsize, List.cons_append, List.nil_append, sumLen_cons]
        omega
    | cons w rs =>
      simp only [specRecsize, List.cons_append]
      have := sumLen_append (v :: w :: rs) xs
      simp only [List.cons_append] at this
      omega

end PnVerif.Layout
