import PnVerif.Lemmas.ToolsValidate
/-
  Lemmas about the ncvalidator model: what an accepting run says about the bytes.
  If the validator's reader returns `x` with all flags set, never had to read past the end of the file, and
  the fields of `x` fit the widths of the format (no sign bit, no NUL in names), then the bytes it consumed are
  exactly the library writer's encoding of `x`.
  The `_run` lemmas say which runs of its parts an accepting run of a reader consists of; the `_inv` lemmas here
  and the `_bound` lemmas of ToolsRepaired are read off them.
-/
namespace PnVerif.Tools
open PnVerif.Spec PnVerif.Header

theorem rdBytes_len {s s' x : Bytes} {n : Nat} (h : rdBytes n s = .ok (x, s')) : x.length = n := by
  cases h; exact ztake_length n s

theorem rdBytes_inv {s s' x : Bytes} {n k : Nat} (h : rdBytes n s = .ok (x, s')) (hl : n + k ≤ s.length) :
    s = x ++ s' ∧ k ≤ s'.length := by
  cases h
  rw [ztake_of_le (by omega), List.take_append_drop, List.length_drop]
  exact ⟨rfl, by omega⟩

theorem vNonNeg_inv (c : VCfg) (f : Fmt) {s s' : Bytes} {n k : Nat} (h : vNonNeg c f.version s = .ok (n, s'))
    (hl : sizeofNonNeg f.version + k ≤ s.length) : s = putNonNeg f.version n ++ s' ∧ k ≤ s'.length :=
  (vNonNeg_word c f).inv (putNonNeg_beNat f) h hl

theorem allZero_eq : ∀ (b : Bytes), allZero b = true → b = zeros b.length := by
  intro b
  induction b with
  | nil => intro _; rfl
  | cons a t ih =>
    intro h
    simp only [allZero, List.all_cons, Bool.and_eq_true, beq_iff_eq] at h
    rw [h.1, ih h.2]
    simp [zeros, List.replicate_succ]

theorem VFlags.and_eq_ok {a b : VFlags} (h : a.and b = VFlags.ok) : a = VFlags.ok ∧ b = VFlags.ok := by
  cases a; cases b
  simp only [VFlags.and, VFlags.ok, VFlags.mk.injEq, Bool.and_eq_true] at h ⊢
  exact ⟨⟨h.1.1, h.2.1⟩, ⟨h.1.2, h.2.2⟩⟩

theorem VFlags.ofPad_eq_ok {p : Bool} (h : VFlags.ofPad p = VFlags.ok) : p = true := by
  cases h; rfl

theorem vName_run {c : VCfg} {ver : Nat} {s s' nm : Bytes} {ok : Bool} (h : vName c ver s = .ok ((nm, ok), s')) :
    ∃ s1 s2 pad, vNonNeg c ver s = .ok (nm.length, s1) ∧ rdBytes nm.length s1 = .ok (nm, s2) ∧
      rdBytes (rndup nm.length 4 - nm.length) s2 = .ok (pad, s') ∧ ok = allZero pad := by
  simp only [vName_eq, bind_ok_iff, pure_ok_iff] at h
  obtain ⟨n, s1, h1, x, s2, h2, pad, s3, h3, rfl, h⟩ := h
  cases h
  obtain rfl := rdBytes_len h2
  exact ⟨s1, s2, pad, h1, h2, h3, rfl⟩

theorem vName_inv (c : VCfg) (f : Fmt) {s s' nm : Bytes} {k : Nat} (h : vName c f.version s = .ok ((nm, true), s'))
    (hl : sizeofNonNeg f.version + (rndup nm.length 4 + k) ≤ s.length) (h0 : NoNul nm) :
    s = putName f.version nm ++ s' ∧ k ≤ s'.length := by
  obtain ⟨s1, s2, pad, h1, h2, h3, hz⟩ := vName_run h
  obtain ⟨e1, hl⟩ := vNonNeg_inv c f h1 hl
  have hl : nm.length + (rndup nm.length 4 - nm.length + k) ≤ s1.length := by
    have : nm.length ≤ rndup nm.length 4 := by unfold rndup; omega
    omega
  obtain ⟨e2, hl⟩ := rdBytes_inv h2 hl
  obtain ⟨e3, hl⟩ := rdBytes_inv h3 hl
  refine ⟨?_, hl⟩
  rw [e1, e2, e3, allZero_eq pad hz.symm, rdBytes_len h3, rndup_sub]
  unfold putName
  simp only [cstr_eq_self h0, List.append_assoc]

theorem vDim_run {c : VCfg} {ver : Nat} {hu : Bool} {s s' : Bytes} {d : Dim} {fl : VFlags}
    (h : vDim c ver hu s = .ok ((d, fl), s')) :
    ∃ ok s1, vName c ver s = .ok ((d.name, ok), s1) ∧ vNonNeg c ver s1 = .ok (d.size, s') ∧ fl = VFlags.ofPad ok := by
  simp only [vDim, bind_ok_iff, ite_ok_iff, fail_ok_iff, pure_ok_iff, if_false_left, Prod.exists] at h
  obtain ⟨nm, ok, s1, h1, len, s2, h2, _, rfl, h⟩ := h
  cases h
  exact ⟨ok, s1, h1, h2, rfl⟩

theorem vDim_inv (c : VCfg) (f : Fmt) {s s' : Bytes} {d : Dim} {hu : Bool} {k : Nat}
    (h : vDim c f.version hu s = .ok ((d, VFlags.ok), s')) (hl : lenDim (sizeofNonNeg f.version) d + k ≤ s.length)
    (h0 : NoNul d.name) : s = putDim f.version d ++ s' ∧ k ≤ s'.length := by
  obtain ⟨ok, s1, h1, h2, hf⟩ := vDim_run h
  obtain rfl := VFlags.ofPad_eq_ok hf.symm
  simp only [lenDim, Nat.add_assoc] at hl
  obtain ⟨e1, hl⟩ := vName_inv c f h1 hl h0
  obtain ⟨e2, hl⟩ := vNonNeg_inv c f h2 hl
  refine ⟨?_, hl⟩
  rw [e1, e2]
  unfold putDim
  rw [List.append_assoc]

/-! ### lists: a list reader is a sequence of item runs -/

inductive Seq {α : Type} (R : Bytes → α → VFlags → Bytes → Prop) : Bytes → List α → VFlags → Bytes → Prop
  | nil (s : Bytes) : Seq R s [] VFlags.ok s
  | cons {s s1 s2 : Bytes} {x : α} {ok : VFlags} {xs : List α} {oks : VFlags} :
      R s x ok s1 → Seq R s1 xs oks s2 → Seq R s (x :: xs) (ok.and oks) s2

namespace Seq
variable {α : Type} {R : Bytes → α → VFlags → Bytes → Prop} {s s' : Bytes} {xs : List α} {fl : VFlags}

theorem all {P : α → Prop} (hi : ∀ s x ok s1, R s x ok s1 → P x) (h : Seq R s xs fl s') : ∀ x ∈ xs, P x := by
  induction h with
  | nil => intro x hx; cases hx
  | cons hr _ ih =>
    intro y hy
    rcases List.mem_cons.mp hy with rfl | hy
    · exact hi _ _ _ _ hr
    · exact ih y hy

theorem flag (hi : ∀ s x ok s1, R s x ok s1 → ok = VFlags.ok) (h : Seq R s xs fl s') : fl = VFlags.ok := by
  induction h with
  | nil => rfl
  | cons hr _ ih => rw [hi _ _ _ _ hr, ih]; rfl

theorem inv {enc : α → Bytes} {len : α → Nat} {WF : α → Prop}
    (hi : ∀ s x s1 k, R s x VFlags.ok s1 → len x + k ≤ s.length → WF x → s = enc x ++ s1 ∧ k ≤ s1.length)
    (h : Seq R s xs fl s') {k : Nat} :
    fl = VFlags.ok → (xs.map len).sum + k ≤ s.length → (∀ x ∈ xs, WF x) → s = xs.flatMap enc ++ s' ∧ k ≤ s'.length := by
  induction h with
  | nil => intro _ hl _; exact ⟨rfl, by simpa using hl⟩
  | @cons s s1 s2 x ok xs oks hr _ ih =>
    intro hfl hl hw
    obtain ⟨rfl, rfl⟩ := VFlags.and_eq_ok hfl
    rw [List.map_cons, List.sum_cons, Nat.add_assoc] at hl
    obtain ⟨e1, hl⟩ := hi _ _ _ _ hr hl (hw x (List.mem_cons_self ..))
    obtain ⟨e2, hl⟩ := ih rfl hl (fun y hy => hw y (List.mem_cons_of_mem _ hy))
    refine ⟨?_, hl⟩
    rw [List.flatMap_cons, List.append_assoc, ← e2, ← e1]

end Seq

/-- `st`: what the loop hands from item to item (`vN`: nothing; `vDims`: "a record dimension was seen") -/
theorem loop_seq {σ α : Type} {F : Nat → σ → VP (List α × VFlags)} {item : σ → VP (α × VFlags)} {next : σ → α → σ}
    {R : Bytes → α → VFlags → Bytes → Prop} (hR : ∀ st s x ok s1, item st s = .ok ((x, ok), s1) → R s x ok s1)
    (h0 : ∀ st, F 0 st = pure ([], VFlags.ok))
    (hs : ∀ n st, F (n + 1) st = item st >>= fun p => F n (next st p.1) >>= fun q => pure (p.1 :: q.1, p.2.and q.2)) :
    ∀ (n : Nat) (st : σ) (s s' : Bytes) (xs : List α) (fl : VFlags),
      F n st s = .ok ((xs, fl), s') → Seq R s xs fl s' ∧ xs.length = n := by
  intro n
  induction n with
  | zero =>
    intro st s s' xs fl h
    simp only [h0, pure_ok_iff] at h
    obtain ⟨rfl, h⟩ := h
    cases h
    exact ⟨.nil _, rfl⟩
  | succ n ih =>
    intro st s s' xs fl h
    simp only [hs, bind_ok_iff, pure_ok_iff, Prod.exists] at h
    obtain ⟨x, ok, s1, h1, t, oks, s2, h2, rfl, h⟩ := h
    cases h
    obtain ⟨ht, rfl⟩ := ih _ _ _ _ _ h2
    exact ⟨.cons (hR _ _ _ _ _ h1) ht, rfl⟩

theorem vN_seq {α : Type} (item : VP (α × VFlags)) (n : Nat) (s s' : Bytes) (xs : List α) (fl : VFlags) :
    vN item n s = .ok ((xs, fl), s') → Seq (fun s x ok s1 => item s = .ok ((x, ok), s1)) s xs fl s' ∧ xs.length = n :=
  loop_seq (F := fun n (_ : Unit) => vN item n) (item := fun _ => item) (next := fun _ _ => ())
    (fun _ _ _ _ _ h => h) (fun _ => rfl) (fun _ _ => rfl) n () s s' xs fl

theorem vDims_seq (c : VCfg) (ver : Nat) (n : Nat) (hu : Bool) (s s' : Bytes) (ds : List Dim) (fl : VFlags) :
    vDims c ver n hu s = .ok ((ds, fl), s') →
      Seq (fun s d ok s1 => ∃ hu, vDim c ver hu s = .ok ((d, ok), s1)) s ds fl s' ∧ ds.length = n :=
  loop_seq (F := vDims c ver) (item := vDim c ver) (next := fun hu d => hu || d.size == 0)
    (fun hu _ _ _ _ h => ⟨hu, h⟩) (fun _ => rfl) (fun _ _ => rfl) n hu s s' ds fl

theorem vArray_run {α : Type} {c : VCfg} {ver tag maxN : Nat} {errMax : VErr} {items : Nat → VP (List α × VFlags)}
    {s s' : Bytes} {xs : List α} {fl : VFlags} (h : vArray c ver tag maxN errMax items s = .ok ((xs, fl), s')) :
    ∃ t n s1 s2, vTag s = .ok (t, s1) ∧ vNonNeg c ver s1 = .ok (n, s2) ∧ n ≤ maxN ∧
      if n = 0 then xs = [] ∧ fl = ⟨true, t == 0⟩ ∧ s' = s2 ∧ (c.strictTag = true → t = 0 ∨ t = tag)
      else t = tag ∧ items n s2 = .ok ((xs, fl), s') := by
  simp only [vArray, bind_ok_iff, ite_ok_iff, fail_ok_iff, pure_ok_iff, if_false_left] at h
  obtain ⟨t, s1, h1, n, s2, h2, c1, h⟩ := h
  refine ⟨t, n, s1, s2, h1, h2, Nat.le_of_not_lt c1, ?_⟩
  by_cases c2 : n = 0
  · rw [if_pos c2] at h ⊢
    obtain ⟨c4, rfl, h⟩ := h
    cases h
    exact ⟨rfl, rfl, rfl, fun ht => by simp only [ht, true_and] at c4; omega⟩
  · rw [if_neg c2] at h ⊢
    exact ⟨Decidable.not_not.mp h.1, h.2⟩

theorem vArray_inv (c : VCfg) {α : Type} (f : Fmt) {tag maxN : Nat} {errMax : VErr} {items : Nat → VP (List α × VFlags)}
    (enc : α → Bytes) {len : α → Nat} {WF : α → Prop} {R : Bytes → α → VFlags → Bytes → Prop} {s s' : Bytes} {xs : List α}
    {k : Nat}
    (hseq : ∀ (n : Nat) (s0 s1 : Bytes) (ys : List α) (fl : VFlags), items n s0 = .ok ((ys, fl), s1) →
        Seq R s0 ys fl s1 ∧ ys.length = n)
    (hi : ∀ s x s1 k, R s x VFlags.ok s1 → len x + k ≤ s.length → WF x → s = enc x ++ s1 ∧ k ≤ s1.length)
    (h : vArray c f.version tag maxN errMax items s = .ok ((xs, VFlags.ok), s'))
    (hl : 4 + (sizeofNonNeg f.version + ((xs.map len).sum + k)) ≤ s.length) (hw : ∀ x ∈ xs, WF x) :
    s = (if xs.length = 0 then be32 0 ++ putNonNeg f.version 0
         else be32 tag ++ putNonNeg f.version xs.length ++ xs.flatMap enc) ++ s' ∧ k ≤ s'.length := by
  obtain ⟨t, n, s1, s2, h1, h2, _, hc⟩ := vArray_run h
  obtain ⟨e1, hl⟩ := vTag_word.inv be32_beNat h1 hl
  obtain ⟨e2, hl⟩ := vNonNeg_inv c f h2 hl
  by_cases hn : n = 0
  · rw [if_pos hn] at hc
    obtain ⟨rfl, ht, rfl, _⟩ := hc
    obtain rfl : t = 0 := by simpa [VFlags.ok] using ht
    refine ⟨?_, by simpa using hl⟩
    rw [e1, e2, hn, List.append_assoc]
    rfl
  · rw [if_neg hn] at hc
    obtain ⟨rfl, hc⟩ := hc
    obtain ⟨hs, rfl⟩ := hseq _ _ _ _ _ hc
    obtain ⟨e3, hl⟩ := hs.inv hi rfl hl hw
    refine ⟨?_, hl⟩
    rw [e1, e2, e3, if_neg hn]
    simp only [List.append_assoc]

theorem vAttr_run {c : VCfg} {ver : Nat} {s s' : Bytes} {a : Att} {fl : VFlags} (h : vAttr c ver s = .ok ((a, fl), s')) :
    ∃ ok1 pad s1 s2 s3 s4, vName c ver s = .ok ((a.name, ok1), s1) ∧ vType ver s1 = .ok (a.xtype, s2) ∧
      vNonNeg c ver s2 = .ok (a.nelems, s3) ∧ rdBytes (a.nelems * a.xtype.size) s3 = .ok (a.xvalue, s4) ∧
      rdBytes (attrXsz a - a.nelems * a.xtype.size) s4 = .ok (pad, s') ∧ fl = VFlags.ofPad (ok1 && allZero pad) := by
  simp only [vAttr_eq, bind_ok_iff, pure_ok_iff, Prod.exists] at h
  obtain ⟨nm, ok1, s1, h1, ty, s2, h2, ne, s3, h3, val, s4, h4, pad, s5, h5, rfl, h⟩ := h
  cases h
  exact ⟨ok1, pad, s1, s2, s3, s4, h1, h2, h3, h4, h5, rfl⟩

theorem vAttr_inv (c : VCfg) (f : Fmt) {s s' : Bytes} {a : Att} {k : Nat} (h : vAttr c f.version s = .ok ((a, VFlags.ok), s'))
    (hl : lenAttr (sizeofNonNeg f.version) a + k ≤ s.length) (h0 : NoNul a.name) :
    s = putAttr f.version a ++ s' ∧ k ≤ s'.length := by
  obtain ⟨ok1, pad, s1, s2, s3, s4, h1, h2, h3, h4, h5, hf⟩ := vAttr_run h
  have hok := VFlags.ofPad_eq_ok hf.symm
  simp only [Bool.and_eq_true] at hok
  obtain ⟨rfl, hz⟩ := hok
  have hvl := rdBytes_len h4
  simp only [lenAttr, Nat.add_assoc] at hl
  obtain ⟨e1, hl⟩ := vName_inv c f h1 hl h0
  obtain ⟨e2, hl⟩ := (vType_word f).inv be32_beNat h2 hl
  obtain ⟨e3, hl⟩ := vNonNeg_inv c f h3 hl
  have hl : a.nelems * a.xtype.size + (attrXsz a - a.nelems * a.xtype.size + k) ≤ s3.length := by
    have : a.nelems * a.xtype.size ≤ attrXsz a := by
      unfold attrXsz; split
      · exact xlenAttrV_ge _ _
      · rw [show a.nelems = 0 by omega, Nat.zero_mul]; exact Nat.le_refl 0
    omega
  obtain ⟨e4, hl⟩ := rdBytes_inv h4 hl
  obtain ⟨e5, hl⟩ := rdBytes_inv h5 hl
  refine ⟨?_, hl⟩
  rw [e1, e2, e3, e4, e5, allZero_eq pad hz, rdBytes_len h5]
  unfold putAttr
  rw [putAttrV_eq a hvl, hvl, ← attr_pad_eq]
  simp only [attrXsz, List.append_assoc]

theorem vAttrArray_inv (c : VCfg) (f : Fmt) {s s' : Bytes} {as : List Att} {k : Nat}
    (h : vAttrArray c f.version s = .ok ((as, VFlags.ok), s'))
    (hl : lenAttrArray (sizeofNonNeg f.version) as + k ≤ s.length) (h0 : ∀ a ∈ as, NoNul a.name) :
    s = putAttrArray f.version as ++ s' ∧ k ≤ s'.length := by
  simp only [lenAttrArray, Nat.add_assoc] at hl
  exact vArray_inv c f (putAttr f.version) (vN_seq (vAttr c f.version)) (fun _ _ _ _ ha hla h0a => vAttr_inv c f ha hla h0a) h hl h0

theorem vVar_run {c : VCfg} {ver nd : Nat} {s s' : Bytes} {v : Var} {fl : VFlags} (h : vVar c ver nd s = .ok ((v, fl), s')) :
    ∃ ok1 fl1 ok2 s1 s2 s3 s4 s5 s6, vName c ver s = .ok ((v.name, ok1), s1) ∧
      vNonNeg c ver s1 = .ok (v.dimids.length, s2) ∧ v.dimids.length ≤ NC_MAX_VAR_DIMS ∧
      vN (vDimid c ver nd) v.dimids.length s2 = .ok ((v.dimids, fl1), s3) ∧ vAttrArray c ver s3 = .ok ((v.atts, ok2), s4) ∧
      vType ver s4 = .ok (v.xtype, s5) ∧ vVsize c ver s5 = .ok (v.vsize, s6) ∧ vBegin c ver s6 = .ok (v.begin, s') ∧
      fl = (VFlags.ofPad ok1).and ok2 := by
  simp only [vVar, bind_ok_iff, ite_ok_iff, fail_ok_iff, pure_ok_iff, if_false_left, Prod.exists] at h
  obtain ⟨nm, ok1, s1, h1, ndims, s2, h2, hnd, ids, fl1, s3, h3, atts, ok2, s4, h4, ty, s5, h5, vs, s6, h6, bg, s7, h7, rfl, h⟩ := h
  cases h
  obtain rfl := (vN_seq _ _ _ _ _ _ h3).2
  exact ⟨ok1, fl1, ok2, s1, s2, s3, s4, s5, s6, h1, h2, Nat.le_of_not_lt hnd, h3, h4, h5, h6, h7, rfl⟩

theorem vVar_inv (c : VCfg) (f : Fmt) {nd : Nat} {s s' : Bytes} {v : Var} {k : Nat}
    (h : vVar c f.version nd s = .ok ((v, VFlags.ok), s'))
    (hl : lenVar (sizeofNonNeg f.version) (sizeofOff f.version) v + k ≤ s.length)
    (h0 : NoNul v.name ∧ ∀ a ∈ v.atts, NoNul a.name) : s = putVar f.version v ++ s' ∧ k ≤ s'.length := by
  obtain ⟨ok1, fl1, ok2, s1, s2, s3, s4, s5, s6, h1, h2, _, h3, h4, h5, h6, h7, hf⟩ := vVar_run h
  obtain ⟨hf1, rfl⟩ := VFlags.and_eq_ok hf.symm
  obtain rfl := VFlags.ofPad_eq_ok hf1
  have hsum : sizeofNonNeg f.version * v.dimids.length = (v.dimids.map (fun _ => sizeofNonNeg f.version)).sum := by
    rw [List.map_const', List.sum_replicate_nat, Nat.mul_comm]
  simp only [lenVar, Nat.add_assoc, hsum] at hl
  obtain ⟨e1, hl⟩ := vName_inv c f h1 hl h0.1
  obtain ⟨e2, hl⟩ := vNonNeg_inv c f h2 hl
  have hs3 := (vN_seq _ _ _ _ _ _ h3).1
  obtain ⟨e3, hl⟩ := hs3.inv (enc := putNonNeg f.version) (WF := fun _ => True)
    (fun _ _ _ _ hx hlx _ => (vDimid_word c f nd).inv (putNonNeg_beNat f) hx hlx)
    (hs3.flag (fun _ _ _ _ hx => ((vDimid_word c f nd).acc hx).1)) hl (fun _ _ => trivial)
  obtain ⟨e4, hl⟩ := vAttrArray_inv c f h4 hl h0.2
  obtain ⟨e5, hl⟩ := (vType_word f).inv be32_beNat h5 hl
  obtain ⟨e6, hl⟩ := (vVsize_word c f).inv (putNonNeg_beNat f) h6 hl
  obtain ⟨e7, hl⟩ := (vBegin_word c f).inv (putBegin_beNat f) h7 hl
  refine ⟨?_, hl⟩
  rw [e1, e2, e3, e4, e5, e6, e7]
  unfold putVar
  simp only [List.append_assoc]

theorem vBody_run {c : VCfg} {f : Fmt} {s s' : Bytes} {h : Hdr} {fl : VFlags} (hb : vBody c f s = .ok ((h, fl), s')) :
    ∃ ok1 ok2 ok3 s1 s2 s3, h.fmt = f ∧ vNumrecs c f.version s = .ok (h.numrecs, s1) ∧
      vDimArray c f.version s1 = .ok ((h.dims, ok1), s2) ∧ vAttrArray c f.version s2 = .ok ((h.gatts, ok2), s3) ∧
      vVarArray c f.version h.dims.length s3 = .ok ((h.vars, ok3), s') ∧ fl = (ok1.and ok2).and ok3 := by
  simp only [vBody, bind_ok_iff, pure_ok_iff, Prod.exists] at hb
  obtain ⟨nr, s1, h1, dims, ok1, s2, h2, gatts, ok2, s3, h3, vars, ok3, s4, h4, rfl, hb⟩ := hb
  cases hb
  exact ⟨ok1, ok2, ok3, s1, s2, s3, rfl, h1, h2, h3, h4, rfl⟩

theorem vBody_inv (c : VCfg) (f : Fmt) {s s' : Bytes} {h : Hdr} (hb : vBody c f s = .ok ((h, VFlags.ok), s'))
    (hl : Hdr.len h ≤ 4 + s.length) (h0 : NamesNoNul h) :
    h.fmt = f ∧ s = putNonNeg f.version h.numrecs ++ putDimArray f.version h.dims ++ putAttrArray f.version h.gatts ++
      putVarArray f.version h.vars ++ s' := by
  obtain ⟨ok1, ok2, ok3, s1, s2, s3, rfl, h1, h2, h3, h4, hf⟩ := vBody_run hb
  obtain ⟨hf12, rfl⟩ := VFlags.and_eq_ok hf.symm
  obtain ⟨rfl, rfl⟩ := VFlags.and_eq_ok hf12
  refine ⟨rfl, ?_⟩
  obtain ⟨hd0, hg0, hv0⟩ := h0
  have hl : Hdr.len h + 0 ≤ 4 + s.length := hl
  simp only [Hdr.len, lenDimArray, lenVarArray, Nat.add_assoc] at hl
  have hl := Nat.le_of_add_le_add_left hl
  obtain ⟨e1, hl⟩ := (vNumrecs_word c h.fmt).inv (putNonNeg_beNat h.fmt) h1 hl
  obtain ⟨e2, hl⟩ := vArray_inv c h.fmt (putDim h.fmt.version) (fun n => vDims_seq c h.fmt.version n false)
    (fun _ _ _ _ ⟨_, hd⟩ hld h0d => vDim_inv c h.fmt hd hld h0d) h2 hl hd0
  obtain ⟨e3, hl⟩ := vAttrArray_inv c h.fmt h3 hl hg0
  obtain ⟨e4, _⟩ := vArray_inv c h.fmt (putVar h.fmt.version) (vN_seq (vVar c h.fmt.version h.dims.length)) (fun _ _ _ _ hv hlv h0v => vVar_inv c h.fmt hv hlv h0v) h4 hl hv0
  rw [e1, e2, e3, e4]
  unfold putDimArray putVarArray
  simp only [List.append_assoc]

theorem vMagic_inv {b : Bytes} {f : Fmt} (h : vMagic b = .ok f) : b = magicBytes f ++ b.drop 4 ∧ 8 ≤ b.length := by
  unfold vMagic at h
  split at h
  · cases h
  · rename_i hlen
    refine ⟨?_, by omega⟩
    split at h
    · rename_i v rest
      split at h
      · rename_i hv; cases h; subst hv; rfl
      · split at h
        · rename_i hv; cases h; subst hv; rfl
        · split at h
          · rename_i hv; cases h; subst hv; rfl
          · cases h
    · cases h

theorem vGetNC_run {c : VCfg} {b : Bytes} {h : Hdr} {info : Info} {fl : VFlags} (hg : vGetNC c b = .ok (h, info, fl)) :
    ∃ f s', vMagic b = .ok f ∧ vBody c f (b.drop 4) = .ok ((h, fl), s') ∧ vPostPass h = .ok info := by
  unfold vGetNC at hg
  split at hg
  · cases hg
  rename_i f hm
  split at hg
  · cases hg
  rename_i h' fl' s' hb
  split at hg
  · cases hg
  rename_i hp
  cases hg
  exact ⟨f, s', hm, hb, hp⟩

end PnVerif.Tools
