import PnVerif.Model.ReqQueue
/-
  The notions in which Props/C02.lean states the properties of Model/ReqQueue.lean come first.

  Method: a queue in "canonical form" is determined by the list of pending requests it stands for
  (`Entry` = core fields + the payloads of its non-lead requests): lead i has
  nonleadOff = Σ_{k<i} nonleadNum k, and the non-lead list is the concatenation of the slices with
  leadOff = i.  `Rep q v` says that `q` is the canonical form of `v` and that the two C counters
  equal the list lengths.  Every operation of the model is shown to map canonical forms to canonical
  forms and its effect on `v` is computed.
-/
namespace PnVerif.ReqQueue

/-- what numPutReqs / numGetReqs counts -/
def total : List Entry → Nat
  | [] => 0
  | e :: es => e.subs.length + total es

/-- put_lead_list / get_lead_list for the pending requests `v`: `nonlead_off` (from `o`) is the running
    sum of the `nonlead_num` -/
def canonLeads : Nat → List Entry → List Lead
  | _, [] => []
  | o, e :: es => ⟨e.c, o, e.subs.length⟩ :: canonLeads (o + e.subs.length) es

/-- put_list / get_list for `v`: the slices back to back, slice k (from `i`) carrying `lead_off` = k -/
def canonNL : Nat → List Entry → List NonLead
  | _, [] => []
  | i, e :: es => e.subs.map (fun s => (⟨i, s⟩ : NonLead)) ++ canonNL (i + 1) es

structure Rep (q : Q) (v : List Entry) : Prop where
  lead : q.lead = canonLeads 0 v
  nonlead : q.nonlead = canonNL 0 v
  numLead : q.numLead = v.length
  numReqs : q.numReqs = total v

/-- NC_REQ_TO_FREE only lives inside one call of req_commit -/
def Clean (v : List Entry) : Prop := ∀ e ∈ v, e.c.toFree = false
def Distinct (v : List Entry) : Prop := List.Pairwise (fun a b => a.c.id ≠ b.c.id) v
/-- zero-length requests are never queued; this makes "num…Reqs = 0" mean "queue empty", on which the
    `if (*num_w_reqs)` guards of extract_reqs and req_commit rely -/
def NoEmpty (v : List Entry) : Prop := ∀ e ∈ v, e.subs ≠ []

/-- invariant of one queue, `par` = 0 for the put queue and 1 for the get queue.  `ids` and `maxPar` make
    the next id, max…ReqID + 2, fresh and of the queue's parity; 0 ≤ id excludes NC_REQ_NULL. -/
structure QInv (q : Q) (par : Int) (v : List Entry) : Prop where
  rep : Rep q v
  clean : Clean v
  distinct : Distinct v
  noEmpty : NoEmpty v
  ids : ∀ e ∈ v, e.c.id % 2 = par ∧ 0 ≤ e.c.id ∧ e.c.id ≤ q.maxId
  maxPar : v ≠ [] → q.maxId % 2 = par

/-- invariant of the two queues together -/
def Inv (nc : NC) : Prop := ∃ vP vG, QInv nc.put 0 vP ∧ QInv nc.get 1 vG

def IsConst (num : Int) : Prop := num = NC_REQ_ALL ∨ num = NC_GET_REQ_ALL ∨ num = NC_PUT_REQ_ALL

/-- none of the shortcuts of extract_reqs applies -/
def SubsetPath (nc : NC) (num : Int) (ids : List Int) (st : Option (List Int)) (V : Variant := {}) : Prop :=
  ¬ (num = NC_REQ_ALL ∨ num = NC_GET_REQ_ALL ∨ num = NC_PUT_REQ_ALL) ∧
  ¬ sc1 V nc num ids ∧ ¬ sc2 V nc num ids ∧ ¬ sc3 V nc num ids st

/-- the requests req_commit leaves pending, and those it completes -/
def kept (v : List Entry) : List Entry := v.filter (fun e => !e.c.toFree)
def flagged (v : List Entry) : List Entry := v.filter (fun e => e.c.toFree)

/-- the record count the blocking calls would leave: the maximum over the completed puts -/
def maxRecOf (numrecs : Int) (done : List Lead) : Int :=
  done.foldl (fun acc l => if acc < l.c.maxRec then l.c.maxRec else acc) numrecs

/-- what `wait_exact` / `status_by_id` / `ids_nulled` say of the result `r` of a wait on `ids` -/
def WaitExact (nc : NC) (ids : List Int) (st : Option (List Int)) (r : WaitRes) : Prop :=
  r.nc.put.view = nc.put.view.filter (fun e => decide (e.c.id ∉ ids)) ∧
  r.nc.get.view = nc.get.view.filter (fun e => decide (e.c.id ∉ ids)) ∧
  r.ids = ids.map (fun _ => NC_REQ_NULL) ∧
  (∀ l ∈ r.donePut ++ r.doneGet, l.c.toFree = true ∧
      (st.isSome = true → ∃ i, l.c.status = some i ∧ ids[i]? = some l.c.id))

/-- position at which `Q.post` inserts -/
def postPos (q : Q) (sorted : Bool) (reqOff : Int) : Nat :=
  if sorted then insPos q.lead reqOff else q.numLead

def postId (q : Q) (first : Int) : Int := if q.numLead = 0 then first else q.maxId + 2

@[simp] theorem total_nil : total [] = 0 := rfl
@[simp] theorem total_cons (e : Entry) (es : List Entry) : total (e :: es) = e.subs.length + total es := rfl

theorem total_append (a b : List Entry) : total (a ++ b) = total a + total b := by
  induction a with
  | nil => simp
  | cons e es ih => simp [ih]; omega

theorem total_eq_zero {v : List Entry} (hne : NoEmpty v) (h : total v = 0) : v = [] := by
  cases v with
  | nil => rfl
  | cons e es =>
    simp at h
    exact absurd h.1 (hne e List.mem_cons_self)

theorem flagged_eq_nil_of_total {m : List Entry} (hne : NoEmpty m) (h0 : total (flagged m) = 0) : flagged m = [] :=
  total_eq_zero (fun e he => hne e (List.mem_filter.mp he).1) h0

@[simp] theorem canonLeads_length (o : Nat) (v : List Entry) : (canonLeads o v).length = v.length := by
  induction v generalizing o with
  | nil => rfl
  | cons e es ih => simp [canonLeads, ih]

theorem Rep.eq_nil_of_numLead {q : Q} {v : List Entry} (h : Rep q v) (h0 : q.numLead = 0) : v = [] :=
  List.eq_nil_of_length_eq_zero (h.numLead.symm.trans h0)

theorem lead_length_of_rep {q : Q} {v : List Entry} (h : Rep q v) : q.lead.length = q.numLead := by
  rw [h.lead, h.numLead, canonLeads_length]

@[simp] theorem canonNL_length (i : Nat) (v : List Entry) : (canonNL i v).length = total v := by
  induction v generalizing i with
  | nil => rfl
  | cons e es ih => simp [canonNL, ih]

theorem canonLeads_core (o : Nat) (v : List Entry) : (canonLeads o v).map (fun l => l.c) = v.map (fun e => e.c) := by
  induction v generalizing o with
  | nil => rfl
  | cons e es ih => simp [canonLeads, ih]

theorem canonLeads_append (o : Nat) (a b : List Entry) :
    canonLeads o (a ++ b) = canonLeads o a ++ canonLeads (o + total a) b := by
  induction a generalizing o with
  | nil => simp [canonLeads]
  | cons e es ih => simp [canonLeads, ih, Nat.add_assoc]

theorem canonNL_append (i : Nat) (a b : List Entry) :
    canonNL i (a ++ b) = canonNL i a ++ canonNL (i + a.length) b := by
  induction a generalizing i with
  | nil => simp [canonNL]
  | cons e es ih =>
    simp only [List.cons_append, canonNL, ih, List.length_cons, List.append_assoc]
    congr 3; omega

theorem canonLeads_bump (o n : Nat) (v : List Entry) :
    (canonLeads o v).map (fun l => { l with nonleadOff := l.nonleadOff + n }) = canonLeads (o + n) v := by
  induction v generalizing o with
  | nil => rfl
  | cons e es ih =>
    simp only [canonLeads, List.map_cons, ih]
    congr 2; omega

theorem canonNL_bump (i : Nat) (v : List Entry) :
    (canonNL i v).map (fun r => { r with leadOff := r.leadOff + 1 }) = canonNL (i + 1) v := by
  induction v generalizing i with
  | nil => rfl
  | cons e es ih => simp [canonNL, ih, List.map_map, Function.comp_def]

theorem canonLeads_unbump (o n : Nat) (v : List Entry) :
    (canonLeads (o + n) v).map (fun l => { l with nonleadOff := l.nonleadOff - n }) = canonLeads o v := by
  rw [← canonLeads_bump o n v, List.map_map]
  exact List.map_id'' (fun l => by simp) _

theorem canonNL_unbump (i : Nat) (v : List Entry) :
    (canonNL (i + 1) v).map (fun r => { r with leadOff := r.leadOff - 1 }) = canonNL i v := by
  rw [← canonNL_bump i v, List.map_map]
  exact List.map_id'' (fun r => by simp) _

theorem canonLeads_take (o p : Nat) (v : List Entry) :
    (canonLeads o v).take p = canonLeads o (v.take p) := by
  induction v generalizing o p with
  | nil => simp [canonLeads]
  | cons e es ih => cases p <;> simp [canonLeads, ih]

theorem canonLeads_drop (o p : Nat) (v : List Entry) :
    (canonLeads o v).drop p = canonLeads (o + total (v.take p)) (v.drop p) := by
  induction v generalizing o p with
  | nil => simp [canonLeads]
  | cons e es ih => cases p <;> simp [canonLeads, ih, Nat.add_assoc]

theorem canonNL_take (i p : Nat) (v : List Entry) :
    (canonNL i v).take (total (v.take p)) = canonNL i (v.take p) := by
  have h := canonNL_append i (v.take p) (v.drop p)
  rw [List.take_append_drop] at h
  rw [h, List.take_left' (by simp)]

theorem canonNL_drop (i p : Nat) (v : List Entry) :
    (canonNL i v).drop (total (v.take p)) = canonNL (i + (v.take p).length) (v.drop p) := by
  have h := canonNL_append i (v.take p) (v.drop p)
  rw [List.take_append_drop] at h
  rw [h, List.drop_left' (by simp)]

theorem slice_canon (pre post : List NonLead) (i : Nat) (e : Entry) (es : List Entry) :
    ((pre ++ canonNL i (e :: es) ++ post).drop pre.length).take e.subs.length
      = e.subs.map (fun s => (⟨i, s⟩ : NonLead)) := by
  simp only [canonNL, List.append_assoc]
  rw [List.drop_left' rfl, List.take_left' (by simp)]

theorem rep_view (q : Q) (v : List Entry) (h : Rep q v) : q.view = v := by
  unfold Q.view
  rw [h.lead, h.nonlead]
  suffices H : ∀ (pre : List NonLead) (i : Nat) (w : List Entry),
      (canonLeads pre.length w).map (fun l => (⟨l.c, (((pre ++ canonNL i w).drop l.nonleadOff).take l.nonleadNum).map (fun r => r.s)⟩ : Entry)) = w by
    simpa using H [] 0 v
  intro pre i w
  induction w generalizing pre i with
  | nil => rfl
  | cons e es ih =>
    simp only [canonLeads, List.map_cons]
    congr 1
    · have := slice_canon pre [] i e es
      simp only [List.append_nil] at this
      rw [this]
      cases e; simp [List.map_map, Function.comp_def]
    · have h2 := ih (pre ++ e.subs.map (fun s => (⟨i, s⟩ : NonLead))) (i + 1)
      simp only [List.length_append, List.length_map, canonNL, List.append_assoc] at h2 ⊢
      exact h2

theorem canonNL_congr (v w : List Entry) (h : v.map (fun e => e.subs) = w.map (fun e => e.subs)) :
    ∀ i, canonNL i v = canonNL i w := by
  induction v generalizing w with
  | nil => intro i; cases w with | nil => rfl | cons _ _ => simp at h
  | cons e es ih =>
    intro i
    cases w with
    | nil => simp at h
    | cons f fs =>
      simp only [List.map_cons, List.cons.injEq] at h
      simp only [canonNL, h.1, ih fs h.2]

theorem Rep.congr_subs {q : Q} {v w : List Entry} (h : Rep q v)
    (hs : w.map (fun e => e.subs) = v.map (fun e => e.subs)) : Rep { q with lead := canonLeads 0 w } w := by
  have hnl := canonNL_congr w v hs 0
  refine ⟨rfl, h.nonlead.trans hnl.symm, ?_, ?_⟩
  · have := congrArg List.length hs
    simp only [List.length_map] at this
    exact h.numLead.trans this.symm
  · exact h.numReqs.trans (by rw [← canonNL_length 0 v, ← canonNL_length 0 w, hnl])

theorem insPos_le (lead : List Lead) (reqOff : Int) : insPos lead reqOff ≤ lead.length := by
  unfold insPos; omega

theorem take_drop_sub_takeWhile {α : Type} (P : α → Bool) (l : List α) :
    l.take (l.length - (l.reverse.takeWhile P).length) = (l.reverse.dropWhile P).reverse ∧
    l.drop (l.length - (l.reverse.takeWhile P).length) = (l.reverse.takeWhile P).reverse := by
  have key := congrArg List.reverse (List.takeWhile_append_dropWhile (p := P) (l := l.reverse))
  rw [List.reverse_append, List.reverse_reverse] at key
  have hlen : (l.reverse.dropWhile P).reverse.length = l.length - (l.reverse.takeWhile P).length := by
    have := congrArg List.length key
    simp only [List.length_append, List.length_reverse] at this ⊢
    omega
  have h1 := List.take_left' (l₂ := (l.reverse.takeWhile P).reverse) hlen
  have h2 := List.drop_left' (l₂ := (l.reverse.takeWhile P).reverse) hlen
  rw [key] at h1 h2
  exact ⟨h1, h2⟩

/-- where the sorted insertion puts the new request: everything behind it has a larger
    `varp->begin`, the entry in front of it (if any) does not -/
theorem insPos_spec (lead : List Lead) (reqOff : Int) :
    (∀ l ∈ lead.drop (insPos lead reqOff), l.c.varBegin > reqOff) ∧
    (∀ l, (lead.take (insPos lead reqOff)).getLast? = some l → l.c.varBegin ≤ reqOff) := by
  have h := take_drop_sub_takeWhile (fun l : Lead => decide (l.c.varBegin > reqOff)) lead
  unfold insPos
  rw [h.1, h.2]
  constructor
  · intro l hl
    simpa using List.all_eq_true.mp List.all_takeWhile l (List.mem_reverse.mp hl)
  · intro l hl
    have := List.head?_dropWhile_not (fun l : Lead => decide (l.c.varBegin > reqOff)) lead.reverse
    rw [List.getLast?_reverse] at hl
    rw [hl] at this
    simpa using this

def newEntry (id varBegin abuf maxRec : Int) (tag : Nat) (subs : List Sub) : Entry :=
  ⟨{ id := id, varBegin := varBegin, abufIndex := abuf, maxRec := maxRec, tag := tag }, subs⟩

theorem postPos_le (q : Q) (v : List Entry) (h : Rep q v) (sorted : Bool) (reqOff : Int) :
    postPos q sorted reqOff ≤ v.length := by
  unfold postPos
  have h2 : q.lead.length = v.length := by rw [h.lead]; simp
  split
  · have := insPos_le q.lead reqOff; omega
  · rw [h.numLead]; exact Nat.le_refl _

theorem post_rep (q : Q) (a b : List Entry) (h : Rep q (a ++ b)) (first : Int) (sorted : Bool)
    (varBegin reqOff abuf : Int) (tag : Nat) (subs : List Sub) (maxRec : Int)
    (hp : postPos q sorted reqOff = a.length) :
    Rep (q.post first sorted varBegin reqOff abuf tag subs maxRec).1
        (a ++ [newEntry (postId q first) varBegin abuf maxRec tag subs] ++ b) := by
  have hp' : (if sorted = true then insPos q.lead reqOff else q.numLead) = a.length := hp
  have hl : q.lead = canonLeads 0 a ++ canonLeads (total a) b := by
    rw [h.lead, canonLeads_append, Nat.zero_add]
  have hn : q.nonlead = canonNL 0 a ++ canonNL a.length b := by
    rw [h.nonlead, canonNL_append, Nat.zero_add]
  simp only [Q.post, hp']
  -- the slot of the non-lead list at which the new slice goes in
  generalize hpos : ite (a.length < q.numLead) _ q.numReqs = pos
  have : pos = total a := by
    rw [← hpos, hl, h.numLead, h.numReqs, List.getElem?_append_right (by simp)]
    cases b with
    | nil => simp
    | cons e es => simp [canonLeads]
  subst this
  refine ⟨?_, ?_, ?_, ?_⟩
  · simp only
    rw [hl, List.take_left' (by simp), List.drop_left' (by simp), canonLeads_bump, canonLeads_append,
        canonLeads_append]
    simp [canonLeads, newEntry, postId, total_append]
  · simp only
    rw [hn, List.take_left' (by simp), List.drop_left' (by simp), canonNL_bump, canonNL_append, canonNL_append]
    simp [canonNL, newEntry]
  · simp [h.numLead]; omega
  · simp only
    rw [h.numReqs, total_append, total_append, total_append]
    simp [newEntry]; omega

theorem findLead_canon (rid : Int) (v : List Entry) (hn : ∀ e ∈ v, e.c.id ≠ NC_REQ_NULL) : ∀ (j0 o : Nat),
    (findLead rid j0 (canonLeads o v) = none ∧ ∀ e ∈ v, e.c.id ≠ rid) ∨
    (∃ a e d, v = a ++ e :: d ∧
      findLead rid j0 (canonLeads o v) = some (j0 + a.length, ⟨e.c, o + total a, e.subs.length⟩) ∧
      e.c.id = rid ∧ ∀ x ∈ a, x.c.id ≠ rid) := by
  induction v with
  | nil => intro j0 o; left; simp [findLead, canonLeads]
  | cons e es ih =>
    intro j0 o
    have hne := hn e List.mem_cons_self
    by_cases hid : e.c.id = rid
    · subst hid
      exact .inr ⟨[], e, es, rfl, by simp [findLead, canonLeads, hne], rfl, by simp⟩
    · rcases ih (fun x hx => hn x (List.mem_cons_of_mem _ hx)) (j0 + 1) (o + e.subs.length) with
        ⟨h1, h2⟩ | ⟨a, e', d, hv, hf, he, ha⟩
      · exact .inl ⟨by simp [findLead, canonLeads, hid, h1], by simpa [hid] using h2⟩
      · refine .inr ⟨e :: a, e', d, by simp [hv], ?_, he, by simpa [hid] using ha⟩
        have hc : e.c.id = NC_REQ_NULL ∨ e.c.id ≠ rid := Or.inr hid
        simp only [findLead, canonLeads, hc, if_true, hf, List.length_cons, total_cons]
        congr 2
        · omega
        · congr 1; omega

theorem remove_rep (q : Q) (a d : List Entry) (e : Entry) (h : Rep q (a ++ e :: d)) :
    Rep (q.remove a.length ⟨e.c, total a, e.subs.length⟩) (a ++ d) := by
  unfold Q.remove
  constructor
  · simp only
    rw [h.lead, canonLeads_append, canonLeads_append]
    simp only [canonLeads, Nat.zero_add]
    rw [List.take_left' (by simp), ← List.drop_drop, List.drop_left' (by simp), List.drop_one, List.tail_cons,
        canonLeads_unbump]
  · simp only
    rw [h.nonlead, canonNL_append, canonNL_append]
    simp only [canonNL, Nat.zero_add]
    rw [List.take_left' (by simp), ← List.drop_drop, List.drop_left' (by simp), List.drop_left' (by simp),
        canonNL_unbump]
  · simp [h.numLead]
  · simp only
    rw [h.numReqs, total_append, total_append]
    simp; omega

theorem freeIfEmpty_rep (q : Q) (v : List Entry) (h : Rep q v) : Rep q.freeIfEmpty v := by
  unfold Q.freeIfEmpty
  split
  · rename_i h0
    have : v = [] := h.eq_nil_of_numLead h0
    subst this
    exact ⟨rfl, rfl, h.numLead, h.numReqs⟩
  · exact h

theorem clear_rep (q : Q) : Rep q.clear [] := ⟨rfl, rfl, rfl, rfl⟩

/-- lead list after loop 3 of extract_reqs: surviving leads get the offsets of the compacted
    array, flagged leads keep their stale offsets -/
def reoff : Nat → Nat → List Entry → List Lead
  | _, _, [] => []
  | k, o, e :: es =>
    if e.c.toFree then ⟨e.c, o, e.subs.length⟩ :: reoff k (o + e.subs.length) es
    else ⟨e.c, k, e.subs.length⟩ :: reoff (k + e.subs.length) (o + e.subs.length) es

/-- compacted non-lead list: slices of the surviving leads, still carrying their OLD lead index -/
def keptNL : Nat → List Entry → List NonLead
  | _, [] => []
  | i, e :: es =>
    if e.c.toFree then keptNL (i + 1) es
    else e.subs.map (fun s => (⟨i, s⟩ : NonLead)) ++ keptNL (i + 1) es

theorem reoff_core (k o : Nat) (v : List Entry) : (reoff k o v).map (fun l => l.c) = v.map (fun e => e.c) := by
  induction v generalizing k o with
  | nil => rfl
  | cons e es ih => cases h : e.c.toFree <;> simp [reoff, h, ih]

@[simp] theorem keptNL_length (i : Nat) (v : List Entry) : (keptNL i v).length = total (kept v) := by
  induction v generalizing i with
  | nil => rfl
  | cons e es ih => cases h : e.c.toFree <;> simpa [keptNL, kept, h, List.filter_cons] using ih (i + 1)

theorem total_kept_flagged (v : List Entry) : total (kept v) + total (flagged v) = total v := by
  induction v with
  | nil => rfl
  | cons e es ih => cases h : e.c.toFree <;> simp [kept, flagged, h] at ih ⊢ <;> omega

theorem length_kept_flagged (v : List Entry) : (kept v).length + (flagged v).length = v.length := by
  induction v with
  | nil => rfl
  | cons e es ih => cases h : e.c.toFree <;> simp [kept, flagged, h] at ih ⊢ <;> omega

theorem kept_eq_self_of_flagged_nil (v : List Entry) (h : flagged v = []) : kept v = v := by
  unfold kept; unfold flagged at h
  rw [List.filter_eq_self]
  intro e he
  simpa using List.filter_eq_nil_iff.mp h e he

theorem filter_toFree_core {L : List Lead} {m : List Entry} (h : L.map (fun l => l.c) = m.map (fun e => e.c)) :
    (L.filter (fun l => l.c.toFree)).map (fun l => l.c) = (flagged m).map (fun e => e.c) := by
  have e1 := List.filter_map (f := fun l : Lead => l.c) (p := fun c : Core => c.toFree) (l := L)
  have e2 := List.filter_map (f := fun e : Entry => e.c) (p := fun c : Core => c.toFree) (l := m)
  rw [h] at e1
  exact e1.symm.trans e2

theorem compactGo_canon (v : List Entry) : ∀ (pre post : List NonLead) (i k : Nat),
    compactGo (pre ++ canonNL i v ++ post) k (canonLeads pre.length v) = (reoff k pre.length v, keptNL i v) := by
  induction v with
  | nil => intro pre post i k; rfl
  | cons e es ih =>
    intro pre post i k
    have hassoc : pre ++ canonNL i (e :: es) ++ post
        = (pre ++ e.subs.map (fun s => (⟨i, s⟩ : NonLead))) ++ canonNL (i + 1) es ++ post := by
      simp [canonNL]
    have hlen : (pre ++ e.subs.map (fun s => (⟨i, s⟩ : NonLead))).length = pre.length + e.subs.length := by simp
    cases h : e.c.toFree
    · simp only [canonLeads, compactGo, h, reoff, keptNL, Bool.false_eq_true, if_false]
      rw [slice_canon pre post i e es, hassoc, ← hlen, ih]
    · simp only [canonLeads, compactGo, h, if_true, reoff, keptNL]
      rw [hassoc, ← hlen, ih]

theorem setLeadOff_mid (D T : List NonLead) (subs : List Sub) (i j : Nat) :
    setLeadOff (D ++ subs.map (fun s => (⟨i, s⟩ : NonLead)) ++ T) D.length subs.length j
      = D ++ subs.map (fun s => (⟨j, s⟩ : NonLead)) ++ T := by
  unfold setLeadOff
  have h1 : (D ++ subs.map (fun s => (⟨i, s⟩ : NonLead)) ++ T).take D.length = D := by
    rw [List.append_assoc]; exact List.take_left' rfl
  have h2 : (D ++ subs.map (fun s => (⟨i, s⟩ : NonLead)) ++ T).drop D.length
      = subs.map (fun s => (⟨i, s⟩ : NonLead)) ++ T := by
    rw [List.append_assoc]; exact List.drop_left' rfl
  have h3 : (D ++ subs.map (fun s => (⟨i, s⟩ : NonLead)) ++ T).drop (D.length + subs.length) = T :=
    List.drop_left' (by simp)
  rw [h1, h2, h3, List.take_left' (by simp)]
  simp [List.map_map, Function.comp_def]

theorem cleanupGo_done (L : List Lead) : ∀ (i j : Nat) (nl : List NonLead),
    (cleanupGo i j L nl).2.2 = L.filter (fun l => l.c.toFree) := by
  induction L with
  | nil => intro i j nl; rfl
  | cons l ls ih => intro i j nl; cases h : l.c.toFree <;> simp [cleanupGo, h, ih]

theorem cleanup_done (q : Q) (k : Nat) :
    (q.cleanup k).2 = if k = 0 then [] else q.lead.filter (fun l => l.c.toFree) := by
  unfold Q.cleanup
  split
  · rfl
  · exact cleanupGo_done _ _ _ _

theorem cleanupGo_canon (v : List Entry) : ∀ (D : List NonLead) (i j o : Nat), j ≤ i →
    (cleanupGo i j (reoff D.length o v) (D ++ keptNL i v)).1 = canonLeads D.length (kept v) ∧
    (cleanupGo i j (reoff D.length o v) (D ++ keptNL i v)).2.1 = D ++ canonNL j (kept v) := by
  induction v with
  | nil => intro D i j o _; simp [cleanupGo, reoff, keptNL, kept, canonLeads, canonNL]
  | cons e es ih =>
    intro D i j o hji
    cases h : e.c.toFree
    · simp only [reoff, cleanupGo, h, keptNL, kept, List.filter_cons, Bool.not_false, if_true,
                 Bool.false_eq_true, if_false, canonLeads, canonNL]
      have hnl : (if j < i then setLeadOff (D ++ (e.subs.map (fun s => (⟨i, s⟩ : NonLead)) ++ keptNL (i + 1) es)) D.length e.subs.length j
                  else D ++ (e.subs.map (fun s => (⟨i, s⟩ : NonLead)) ++ keptNL (i + 1) es))
          = (D ++ e.subs.map (fun s => (⟨j, s⟩ : NonLead))) ++ keptNL (i + 1) es := by
        split
        · rw [← List.append_assoc, setLeadOff_mid]
        · have : j = i := by omega
          subst this; simp
      rw [hnl]
      have hlen : (D ++ e.subs.map (fun s => (⟨j, s⟩ : NonLead))).length = D.length + e.subs.length := by simp
      have := ih (D ++ e.subs.map (fun s => (⟨j, s⟩ : NonLead))) (i + 1) (j + 1) (o + e.subs.length) (by omega)
      rw [hlen] at this
      simpa [kept] using this
    · simp only [reoff, cleanupGo, h, if_true, keptNL, kept, List.filter_cons, Bool.not_true,
                 Bool.false_eq_true, if_false]
      exact ih D (i + 1) j (o + e.subs.length) (by omega)

theorem compactGo_rep {q : Q} {m : List Entry} (h : Rep q m) :
    compactGo q.nonlead 0 q.lead = (reoff 0 0 m, keptNL 0 m) := by
  simpa [h.lead, h.nonlead] using compactGo_canon m [] [] 0 0

theorem compact_lead_core {q : Q} {m : List Entry} (h : Rep q m) (n : Nat) :
    (q.compact n).lead.map (fun l => l.c) = m.map (fun e => e.c) := by
  unfold Q.compact
  split
  · rw [h.lead]; exact canonLeads_core 0 m
  · simp only [compactGo_rep h]
    exact reoff_core 0 0 m

theorem compact_done_core {q : Q} {m : List Entry} (h : Rep q m) (n : Nat) :
    ((q.compact n).cleanup (flagged m).length).2.map (fun l => l.c) = (flagged m).map (fun e => e.c) := by
  rw [cleanup_done]
  split
  · rename_i h0; rw [List.eq_nil_of_length_eq_zero h0]; rfl
  · exact filter_toFree_core (compact_lead_core h n)

/-- loop 3 of extract_reqs followed by the post-I/O loop of req_commit on one queue whose lead
    list is the canonical form of `m` (flags set on the extracted requests): the result is the
    canonical form of the requests that stay -/
theorem compact_cleanup_rep (q : Q) (m : List Entry) (h : Rep q m) (hne : NoEmpty m) :
    Rep ((q.compact (total (flagged m))).cleanup (flagged m).length).1 (kept m) := by
  by_cases hf : flagged m = []
  · simp [Q.compact, Q.cleanup, hf, kept_eq_self_of_flagged_nil m hf, h]
  · have hn : total (flagged m) ≠ 0 :=
      fun h0 => hf (flagged_eq_nil_of_total hne h0)
    have hfpos : (flagged m).length ≠ 0 := fun h0 => hf (List.eq_nil_of_length_eq_zero h0)
    have hcnt : q.numReqs - total (flagged m) = total (kept m) := by
      have := total_kept_flagged m; rw [h.numReqs]; omega
    have hcl := cleanupGo_canon m [] 0 0 0 (Nat.le_refl 0)
    simp only [List.nil_append, List.length_nil] at hcl
    unfold Q.compact Q.cleanup
    simp only [hn, hfpos, if_false, compactGo_rep h, hcnt]
    rw [h.nonlead]
    rw [List.take_left' (keptNL_length 0 m)]
    have hk0 : (if total (kept m) = 0 then [] else keptNL 0 m) = keptNL 0 m := by
      split
      · rename_i h0
        exact (List.eq_nil_of_length_eq_zero ((keptNL_length 0 m).trans h0)).symm
      · rfl
    simp only [hk0, hcl.1, hcl.2, canonLeads_length]
    refine ⟨rfl, ?_, rfl, rfl⟩
    simp only
    split
    · rename_i h0
      rw [List.eq_nil_of_length_eq_zero h0]; rfl
    · rfl

/-- `fSet(lead->flag, NC_REQ_TO_FREE); lead->status = s` -/
def flagE (s : Option Nat) (e : Entry) : Entry := { e with c := { e.c with toFree := true, status := s } }

def newStatus (slot : Option Nat) (e : Entry) : Option Nat :=
  match slot with | some i => some i | none => e.c.status

/-- `markLead` on the pending requests instead of the lead list (`markLead_canon`) -/
def markE (slot : Option Nat) (rid : Int) : List Entry → Option (List Entry × Nat)
  | [] => none
  | e :: es =>
    if e.c.toFree then (markE slot rid es).map (fun r => (e :: r.1, r.2))
    else if e.c.id = rid then some (flagE (newStatus slot e) e :: es, e.subs.length)
    else (markE slot rid es).map (fun r => (e :: r.1, r.2))

theorem markE_cons_hit {slot : Option Nat} {rid : Int} {e : Entry} {es : List Entry}
    (h1 : e.c.toFree = false) (h2 : e.c.id = rid) :
    markE slot rid (e :: es) = some (flagE (newStatus slot e) e :: es, e.subs.length) := by
  simp [markE, h1, h2]

theorem markE_cons_skip {slot : Option Nat} {rid : Int} {e : Entry} {es : List Entry}
    (h : ¬ (e.c.toFree = false ∧ e.c.id = rid)) :
    markE slot rid (e :: es) = (markE slot rid es).map (fun r => (e :: r.1, r.2)) := by
  cases h1 : e.c.toFree
  · have h2 : e.c.id ≠ rid := fun h2 => h ⟨h1, h2⟩
    simp [markE, h1, h2]
  · simp [markE, h1]

theorem markLead_canon (slot : Option Nat) (rid : Int) (v : List Entry) : ∀ (o : Nat),
    markLead slot rid (canonLeads o v) = (markE slot rid v).map (fun r => (canonLeads o r.1, r.2)) := by
  induction v with
  | nil => intro o; rfl
  | cons e es ih =>
    intro o
    simp only [canonLeads, markLead, markE]
    by_cases h1 : e.c.toFree = true
    · simp only [h1, if_true, ih, Option.map_map]
      cases markE slot rid es <;> simp [canonLeads]
    · have h1' : e.c.toFree = false := by simpa using h1
      simp only [h1', Bool.false_eq_true, if_false]
      by_cases h2 : e.c.id = rid
      · simp only [h2, if_true, Option.map_some, canonLeads, flagE, newStatus]
        cases slot <;> rfl
      · simp only [h2, if_false, ih, Option.map_map]
        cases markE slot rid es <;> simp [canonLeads]

theorem markE_counts {slot : Option Nat} {rid : Int} : ∀ {m m' : List Entry} {n : Nat},
    markE slot rid m = some (m', n) →
      (flagged m').length = (flagged m).length + 1 ∧ total (flagged m') = total (flagged m) + n := by
  intro m
  induction m with
  | nil => intro m' n h; simp [markE] at h
  | cons e es ih =>
    intro m' n h
    by_cases hit : e.c.toFree = false ∧ e.c.id = rid
    · rw [markE_cons_hit hit.1 hit.2] at h
      obtain ⟨rfl, rfl⟩ := Prod.mk.inj (Option.some.inj h)
      simp [flagged, hit.1, flagE]
      omega
    · rw [markE_cons_skip hit, Option.map_eq_some_iff] at h
      obtain ⟨r, hr, hrr⟩ := h
      obtain ⟨rfl, rfl⟩ := Prod.mk.inj hrr
      have := ih hr
      cases hf : e.c.toFree <;> simp [flagged, hf] at this ⊢ <;> omega

/-- the slot the C code stores in `lead->status` for the id at position `i` -/
def slotOf (hasSt : Bool) (i : Nat) : Option Nat := if hasSt then some i else none

/-- a request after loop 1 has processed the entries `done` of req_ids[]: flagged iff named, with the
    slot of the first position that names it -/
def markBy (hasSt : Bool) (done : List Int) (e : Entry) : Entry :=
  if e.c.id ∈ done then flagE (newStatus (slotOf hasSt (done.idxOf e.c.id)) e) e else e

section
variable {hasSt : Bool} {done : List Int}

theorem markBy_subs (e : Entry) : (markBy hasSt done e).subs = e.subs := by
  unfold markBy; split <;> rfl
theorem markBy_id (e : Entry) : (markBy hasSt done e).c.id = e.c.id := by
  unfold markBy; split <;> rfl
theorem markBy_toFree {e : Entry} (h : e.c.toFree = false) :
    (markBy hasSt done e).c.toFree = decide (e.c.id ∈ done) := by
  unfold markBy; split <;> simp [*, flagE]

theorem map_markBy_subs (v : List Entry) :
    (v.map (markBy hasSt done)).map (fun e => e.subs) = v.map (fun e => e.subs) := by
  simp [List.map_map, Function.comp_def, markBy_subs]

theorem flagged_map_markBy {v : List Entry} (hc : Clean v) :
    flagged (v.map (markBy hasSt done)) = (v.filter (fun e => decide (e.c.id ∈ done))).map (markBy hasSt done) := by
  unfold flagged
  rw [List.filter_map]
  exact congrArg _ (List.filter_congr fun x hx => markBy_toFree (hc x hx))

theorem kept_map_markBy {v : List Entry} (hc : Clean v) :
    kept (v.map (markBy hasSt done)) = v.filter (fun e => decide (e.c.id ∉ done)) := by
  unfold kept
  rw [List.filter_map, List.filter_congr (q := fun e => decide (e.c.id ∉ done))
        (fun x hx => by simp [markBy_toFree (hc x hx)])]
  exact (List.map_congr_left fun x hx => if_neg (of_decide_eq_true (List.mem_filter.mp hx).2)).trans (List.map_id _)

theorem markBy_snoc {rid : Int} {e : Entry} (h : e.c.id = rid → rid ∈ done) :
    markBy hasSt (done ++ [rid]) e = markBy hasSt done e := by
  unfold markBy
  by_cases hm : e.c.id ∈ done
  · simp [hm, List.idxOf_append]
  · have : e.c.id ≠ rid := fun hr => hm (hr ▸ h hr)
    simp [hm, this]

theorem markBy_snoc_self {e : Entry} (h : e.c.id ∉ done) :
    markBy hasSt (done ++ [e.c.id]) e = flagE (newStatus (slotOf hasSt done.length) e) e := by
  simp [markBy, List.idxOf_append, h]

/-- one step of loop 1 keeps the closed form, whether the id is found or rejected (unknown, or named
    before) -/
theorem markE_markBy {rid : Int} {v : List Entry} (hc : Clean v) (hd : Distinct v) :
    match markE (slotOf hasSt done.length) rid (v.map (markBy hasSt done)) with
    | some r => r.1 = v.map (markBy hasSt (done ++ [rid])) ∧ ∃ x ∈ v, x.c.id = rid ∧ r.2 = x.subs.length
    | none => v.map (markBy hasSt (done ++ [rid])) = v.map (markBy hasSt done) := by
  induction v with
  | nil => rfl
  | cons e es ih =>
    have hd' := List.pairwise_cons.mp hd
    have hce : e.c.toFree = false := hc e List.mem_cons_self
    have ih' := ih (fun x hx => hc x (List.mem_cons_of_mem _ hx)) hd'.2
    rw [List.map_cons]
    by_cases hit : e.c.id ∉ done ∧ e.c.id = rid
    · obtain ⟨hnd, rfl⟩ := hit
      have he : markBy hasSt done e = e := if_neg hnd
      rw [he, markE_cons_hit hce rfl]
      refine ⟨?_, e, List.mem_cons_self, rfl, rfl⟩
      simp only [List.map_cons]
      congr 1
      · exact (markBy_snoc_self hnd).symm
      · exact (List.map_congr_left fun x hx => markBy_snoc fun h => absurd h.symm (hd'.1 x hx)).symm
    · have hskip : ¬ ((markBy hasSt done e).c.toFree = false ∧ (markBy hasSt done e).c.id = rid) := by
        rw [markBy_toFree hce, markBy_id]
        intro h'; exact hit ⟨by simpa using h'.1, h'.2⟩
      have hhead : markBy hasSt (done ++ [rid]) e = markBy hasSt done e :=
        markBy_snoc fun hr => Classical.not_not.mp fun hnd => hit ⟨hr ▸ hnd, hr⟩
      rw [markE_cons_skip hskip]
      cases hm : markE (slotOf hasSt done.length) rid (es.map (markBy hasSt done)) with
      | none =>
        rw [hm] at ih'
        simp only [Option.map_none, List.map_cons, hhead, ih']
      | some r =>
        rw [hm] at ih'
        obtain ⟨h1, x, hx, hxi, hk⟩ := ih'
        exact ⟨by simp only [List.map_cons, hhead, h1], x, List.mem_cons_of_mem _ hx, hxi, hk⟩

end

end PnVerif.ReqQueue
