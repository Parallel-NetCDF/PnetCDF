import PnVerif.Lemmas.Window
/-
  The library's reader (reader program `getBody` run on the flat stream) against the independent
  specification decoder of Spec/SpecDecode.lean, parser by parser.
-/
namespace PnVerif.Header
open PnVerif.Spec

def AttLim (a : Att) : Prop := a.name.length ≤ NC_MAX_NAME

structure VarLim (nd : Nat) (v : Var) : Prop where
  name   : v.name.length ≤ NC_MAX_NAME
  ndims  : v.dimids.length ≤ NC_MAX_VAR_DIMS
  dimids : ∀ id ∈ v.dimids, id < nd
  natts  : v.atts.length ≤ NC_MAX_ATTRS
  atts   : ∀ a ∈ v.atts, AttLim a

/-- the library's own limits, all it demands beyond the specification: names ≤ NC_MAX_NAME bytes,
    list lengths ≤ NC_MAX_INT, at most one record dimension, dimension ids in range -/
structure Limits (d : Schema) : Prop where
  ndims    : d.dims.length ≤ NC_MAX_DIMS
  dimNames : ∀ x ∈ d.dims, x.name.length ≤ NC_MAX_NAME
  oneRec   : (d.dims.filter (fun x => x.size == 0)).length ≤ 1
  ngatts   : d.gatts.length ≤ NC_MAX_ATTRS
  gatts    : ∀ a ∈ d.gatts, AttLim a
  nvars    : d.vars.length ≤ NC_MAX_VARS
  vars     : ∀ v ∈ d.vars, VarLim d.dims.length v

theorem bind_def {α β : Type} (p : P α) (f : α → P β) : (p >>= f) = P.bind p f := rfl
theorem pure_def {α : Type} (a : α) : (pure a : P α) = P.ret a := rfl

theorem run_bind {σ α β : Type} (r : Reader σ) (p : P α) (f : α → P β) :
    ∀ s, run r (P.bind p f) s = (match run r p s with
      | .ok (a, s') => run r (f a) s'
      | .error e => .error e) := by
  induction p with
  | ret a => intro s; rfl
  | fail e => intro s; rfl
  | pad q k ih => intro s; exact ih _
  | u32 k ih | u64 k ih | bytes _ k ih => intro s; exact ih _ _

theorem run_seq {σ α β : Type} (r : Reader σ) (p : P α) (f : α → P β) (s : σ) :
    run r (p >>= f) s = (match run r p s with
      | .ok (a, s') => run r (f a) s'
      | .error e => .error e) := run_bind r p f s

@[simp] theorem runF_ret {α : Type} (a : α) (s : Bytes) : run flatR (P.ret a) s = .ok (a, s) := rfl
@[simp] theorem runF_fail {α : Type} (e : Err) (s : Bytes) : run flatR (P.fail e : P α) s = .error e := rfl
@[simp] theorem runF_u32 (s : Bytes) : run flatR getU32 s = .ok (beNat (ztake 4 s), s.drop 4) := rfl
@[simp] theorem runF_u64 (s : Bytes) : run flatR getU64 s = .ok (beNat (ztake 8 s), s.drop 8) := rfl
@[simp] theorem runF_bytes (n : Nat) (s : Bytes) : run flatR (getBytes n) s = .ok (ztake n s, s.drop n) := rfl
@[simp] theorem runF_pad {α : Type} (q : Fin 4) (k : P α) (s : Bytes) :
    run flatR (P.pad q k) s = run flatR k (s.drop q.val) := rfl

theorem beVal_eq (b : Bytes) : Spec.beVal b = beNat b := rfl

/-! Each `_sim` lemma inverts one parser of the specification (`split` on its sequence of matches) and
  replays the fields it read through the reader program (`run_seq`). -/

theorem takeN_some {n : Nat} {b x r : Bytes} (h : Spec.takeN n b = some (x, r)) :
    n ≤ b.length ∧ x = b.take n ∧ r = b.drop n := by
  unfold Spec.takeN at h
  split at h
  · cases h; exact ⟨‹_›, rfl, rfl⟩
  · contradiction

theorem word32_sim {b r : Bytes} {v : Nat} (h : Spec.word32 b = some (v, r)) :
    run flatR getU32 b = .ok (v, r) := by
  unfold Spec.word32 at h
  split at h <;> try contradiction
  rename_i x r' ht
  obtain ⟨h1, rfl, rfl⟩ := takeN_some ht
  cases h
  rw [runF_u32, ztake_of_le h1, beVal_eq]

theorem word64_sim {b r : Bytes} {v : Nat} (h : Spec.word64 b = some (v, r)) :
    run flatR getU64 b = .ok (v, r) := by
  unfold Spec.word64 at h
  split at h <;> try contradiction
  rename_i x r' ht
  obtain ⟨h1, rfl, rfl⟩ := takeN_some ht
  cases h
  rw [runF_u64, ztake_of_le h1, beVal_eq]

theorem getNonNeg_fmt (f : Fmt) : getNonNeg f.version = match f with | .cdf5 => getU64 | _ => getU32 := by
  cases f <;> rfl

theorem getBegin_fmt (f : Fmt) : getBegin f.version = match f with | .cdf1 => getU32 | _ => getU64 := by
  cases f <;> rfl

/-- the reader does not look at the sign bit -/
theorem nonNeg_sim {f : Fmt} {b r : Bytes} {n : Nat} (h : Spec.nonNeg f b = some (n, r)) :
    run flatR (getNonNeg f.version) b = .ok (n, r) := by
  rw [getNonNeg_fmt]
  cases f <;> simp only [Spec.nonNeg] at h ⊢ <;> split at h <;> try contradiction
  all_goals
    rename_i v r' hw
    split at h <;> try contradiction
    cases h
  · exact word32_sim hw
  · exact word32_sim hw
  · exact word64_sim hw

theorem offset_sim {f : Fmt} {b r : Bytes} {v : Nat} (h : Spec.offset f b = some (v, r)) :
    run flatR (getBegin f.version) b = .ok (v, r) := by
  rw [getBegin_fmt]
  cases f <;> simp only [Spec.offset] at h ⊢ <;> split at h <;> try contradiction
  all_goals
    rename_i v' r' hw
    split at h <;> try contradiction
    cases h
  · exact word32_sim hw
  · exact word64_sim hw
  · exact word64_sim hw

theorem rawSize_sim {f : Fmt} {b r : Bytes} {v : Nat} (h : Spec.rawSize f b = some (v, r)) :
    run flatR (getNonNeg f.version) b = .ok (v, r) := by
  rw [getNonNeg_fmt]
  cases f
  · exact word32_sim h
  · exact word32_sim h
  · exact word64_sim h

theorem padLen_eq (n : Nat) : rndup n 4 - n = Spec.padLen n := by
  rw [rndup4_eq, Nat.add_sub_cancel_left]

theorem attr_pad_eq (t : NcType) (n : Nat) :
    (if n > 0 then xlenAttrV t n else 0) - n * t.size = Spec.padLen (n * t.size) := by
  rw [← padLen_eq, xlenAttrV_eq]
  split
  · rfl
  · rw [show n = 0 by omega, Nat.zero_mul]; rfl

theorem padded_some {n : Nat} {b x r : Bytes} (h : Spec.padded n b = some (x, r)) :
    n ≤ b.length ∧ x = b.take n ∧ r = b.drop (n + Spec.padLen n) := by
  unfold Spec.padded at h
  split at h <;> try contradiction
  rename_i x' r' ht
  split at h <;> try contradiction
  rename_i y r'' ht2
  obtain ⟨h1, rfl, rfl⟩ := takeN_some ht
  obtain ⟨_, _, rfl⟩ := takeN_some ht2
  cases h
  exact ⟨h1, rfl, List.drop_drop ..⟩

theorem runF_skip {α : Type} (k : Nat) (hk : k < 4) (a : α) (s : Bytes) :
    run flatR (if k > 0 then .pad ⟨k, hk⟩ (.ret a) else .ret a) s = .ok (a, s.drop k) := by
  split
  · rfl
  · rw [show k = 0 by omega]; rfl

theorem name_sim {f : Fmt} {b r nm : Bytes} (h : Spec.name f b = some (nm, r))
    (hl : nm.length ≤ NC_MAX_NAME) : run flatR (getName f.version) b = .ok (nm, r) := by
  unfold Spec.name at h
  split at h <;> try contradiction
  rename_i n r1 hn
  obtain ⟨h1, rfl, rfl⟩ := padded_some h
  have hle : ¬ n > NC_MAX_NAME := by rw [List.length_take] at hl; omega
  simp only [getName, run_seq, nonNeg_sim hn, hle, if_false, runF_bytes, runF_skip, ztake_of_le h1,
    List.drop_drop, padLen_eq]

theorem many_succ_some {α : Type} {sp : Spec.Parser α} {n : Nat} {b r : Bytes} {xs : List α}
    (h : Spec.many sp (n + 1) b = some (xs, r)) :
    ∃ x r1 xs', sp b = some (x, r1) ∧ Spec.many sp n r1 = some (xs', r) ∧ xs = x :: xs' := by
  simp only [Spec.many] at h
  split at h <;> try contradiction
  rename_i x r1 hx
  split at h <;> try contradiction
  rename_i xs' r2 hxs
  cases h
  exact ⟨x, r1, xs', hx, hxs, rfl⟩

theorem many_length {α : Type} {sp : Spec.Parser α} {n : Nat} {b r : Bytes} {xs : List α}
    (h : Spec.many sp n b = some (xs, r)) : xs.length = n := by
  induction n generalizing b xs with
  | zero => cases h; rfl
  | succ n ih =>
    obtain ⟨x, r1, xs', _, hxs, rfl⟩ := many_succ_some h
    rw [List.length_cons, ih hxs]

theorem many_sim {α : Type} {sp : Spec.Parser α} {p : P α} {Lim : α → Prop}
    (hs : ∀ {b x r}, sp b = some (x, r) → Lim x → run flatR p b = .ok (x, r))
    {n : Nat} {b r : Bytes} {xs : List α} (h : Spec.many sp n b = some (xs, r)) (hl : ∀ x ∈ xs, Lim x) :
    run flatR (getN p n) b = .ok (xs, r) := by
  induction n generalizing b xs with
  | zero => cases h; rfl
  | succ n ih =>
    obtain ⟨x, r1, xs', hx, hxs, rfl⟩ := many_succ_some h
    simp only [getN, run_seq, hs hx (hl x (by simp)), ih hxs (fun y hy => hl y (by simp [hy])), runF_ret]

theorem dim_sim {f : Fmt} {b r : Bytes} {d : Dim} {hu : Bool} (h : Spec.dim f b = some (d, r))
    (hl : d.name.length ≤ NC_MAX_NAME) (hz : hu = true → d.size ≠ 0) :
    run flatR (getDim f.version hu) b = .ok (d, r) := by
  unfold Spec.dim at h
  split at h <;> try contradiction
  rename_i nm r1 hn
  split at h <;> try contradiction
  rename_i sz r2 hs
  cases h
  have : ¬ (hu = true ∧ sz = 0) := fun ⟨a, b⟩ => hz a b
  simp only [getDim, run_seq, name_sim hn hl, nonNeg_sim hs, this, if_false, runF_ret]

theorem length_filter_cons {α : Type} (p : α → Bool) (a : α) (l : List α) :
    ((a :: l).filter p).length = (p a).toNat + (l.filter p).length := by
  rw [List.filter_cons]; cases p a <;> simp [Nat.add_comm]

/-- the dimension loop; its flag `hu` ("a record dimension was seen") counts as one record
    dimension against the limit of one -/
theorem dims_sim {f : Fmt} {n : Nat} {b r : Bytes} {ds : List Dim} {hu : Bool}
    (h : Spec.many (Spec.dim f) n b = some (ds, r)) (hl : ∀ d ∈ ds, d.name.length ≤ NC_MAX_NAME)
    (hc : hu.toNat + (ds.filter (fun d => d.size == 0)).length ≤ 1) :
    run flatR (getDims f.version n hu) b = .ok (ds, r) := by
  induction n generalizing b ds hu with
  | zero => cases h; rfl
  | succ n ih =>
    obtain ⟨d, r1, ds', hd, hds, rfl⟩ := many_succ_some h
    rw [length_filter_cons] at hc
    have hz : hu = true → d.size ≠ 0 := by
      intro hu h0; simp [hu, h0] at hc; omega
    -- the flag after `d` stands for one record dimension exactly when `hu` or `d` did: four cases
    have hc' : (hu || d.size == 0).toNat + (ds'.filter (fun d => d.size == 0)).length ≤ 1 := by
      generalize (ds'.filter _).length = m at hc ⊢
      cases hu <;> cases h0 : d.size == 0 <;> simp [h0] at hc ⊢ <;> omega
    simp only [getDims, run_seq, dim_sim hd (hl d (by simp)) hz,
      ih hds (fun y hy => hl y (by simp [hy])) hc', runF_ret]

theorem ofCode_some {c : Nat} {t : NcType} (h : NcType.ofCode c = some t) :
    t.code = c ∧ 1 ≤ c ∧ c ≤ 11 := by
  unfold NcType.ofCode at h
  split at h <;> cases h <;> exact ⟨rfl, by decide, by decide⟩

theorem type_sim {f : Fmt} {b r : Bytes} {t : NcType} (h : Spec.ncType f b = some (t, r)) :
    run flatR (getType f.version) b = .ok (t, r) := by
  unfold Spec.ncType at h
  split at h <;> try contradiction
  rename_i c r1 hw
  split at h <;> try contradiction
  rename_i t' ht
  split at h <;> try contradiction
  rename_i hok
  cases h
  obtain ⟨hc, h1, h11⟩ := ofCode_some ht
  have a1 : ¬ c < 1 := by omega
  have a2 : ¬ (f.version < 5 ∧ c > 6) := by
    intro ⟨hv, h6⟩
    cases f <;> simp [NcType.okFor, Fmt.version] at hok hv <;> omega
  have a3 : ¬ (¬ f.version < 5 ∧ c > 11) := by omega
  simp only [getType, run_seq, word32_sim hw, a1, a2, a3, if_false, ht, runF_ret]

theorem attr_sim {f : Fmt} {b r : Bytes} {a : Att} (h : Spec.att f b = some (a, r))
    (hl : AttLim a) : run flatR (getAttr f.version) b = .ok (a, r) := by
  unfold Spec.att at h
  split at h <;> try contradiction
  rename_i nm r1 hn
  split at h <;> try contradiction
  rename_i t r2 ht
  split at h <;> try contradiction
  rename_i n r3 hne
  split at h <;> try contradiction
  rename_i v r4 hv
  cases h
  obtain ⟨h1, rfl, rfl⟩ := padded_some hv
  simp only [getAttr, run_seq, name_sim hn hl, type_sim ht, nonNeg_sim hne, runF_bytes, runF_skip, ztake_of_le h1,
    List.drop_drop, attr_pad_eq]

/-- `ABSENT | TAG nelems [item ...]` against hdr_get_NC_*array -/
theorem array_sim {α : Type} {f : Fmt} {tag maxN : Nat} {errMax : Err} {sp : Spec.Parser α}
    {items : Nat → P (List α)} {b r : Bytes} {xs : List α}
    (h : Spec.listOf f tag sp b = some (xs, r)) (hmax : xs.length ≤ maxN)
    (hitems : ∀ {n b'}, Spec.many sp n b' = some (xs, r) → run flatR (items n) b' = .ok (xs, r)) :
    run flatR (getArray f.version tag maxN errMax items) b = .ok (xs, r) := by
  unfold Spec.listOf at h
  split at h <;> try contradiction
  rename_i t r1 hw
  split at h <;> try contradiction
  rename_i n r2 hn
  simp only [getArray, run_seq, word32_sim hw, nonNeg_sim hn]
  split at h
  · -- ABSENT
    split at h <;> try contradiction
    rename_i hn0
    cases h
    simp [hn0]
  · split at h <;> try contradiction
    rename_i htag
    have a1 : ¬ n > maxN := by rw [← many_length h]; omega
    by_cases hn0 : n = 0
    · subst hn0; cases h; simp
    · simp only [a1, hn0, htag, ne_eq, not_true_eq_false, if_false]
      exact hitems h

theorem dimid_sim {f : Fmt} {b r : Bytes} {id fNdims : Nat} (h : Spec.nonNeg f b = some (id, r))
    (hl : id < fNdims) : run flatR (getDimid f.version fNdims) b = .ok (id, r) := by
  have : ¬ id ≥ fNdims := by omega
  simp only [getDimid, run_seq, nonNeg_sim h, this, if_false, runF_ret]

theorem attrs_sim {f : Fmt} {b r : Bytes} {as : List Att} (h : Spec.listOf f 12 (Spec.att f) b = some (as, r))
    (hn : as.length ≤ NC_MAX_ATTRS) (hl : ∀ a ∈ as, AttLim a) :
    run flatR (getAttrArray f.version) b = .ok (as, r) :=
  array_sim h hn (many_sim attr_sim · hl)

theorem var_sim {f : Fmt} {b r : Bytes} {v : Var} {nd : Nat} (h : Spec.var f b = some (v, r))
    (hl : VarLim nd v) : run flatR (getVar f.version nd) b = .ok (v, r) := by
  unfold Spec.var at h
  split at h <;> try contradiction
  rename_i nm r1 hnm
  split at h <;> try contradiction
  rename_i ndims r2 hnd
  split at h <;> try contradiction
  rename_i ids r3 hids
  split at h <;> try contradiction
  rename_i as r4 has
  split at h <;> try contradiction
  rename_i t r5 ht
  split at h <;> try contradiction
  rename_i vs r6 hvs
  split at h <;> try contradiction
  rename_i bg r7 hbg
  cases h
  have a1 : ¬ ndims > NC_MAX_VAR_DIMS := by rw [← many_length hids]; exact Nat.not_lt.mpr hl.ndims
  simp only [getVar, run_seq, name_sim hnm hl.name, nonNeg_sim hnd, a1, if_false, many_sim dimid_sim hids hl.dimids,
    attrs_sim has hl.natts hl.atts, type_sim ht, rawSize_sim hvs, offset_sim hbg, runF_ret]

theorem magic_some {b r : Bytes} {f : Fmt} (h : Spec.magic b = some (f, r)) :
    checkMagic (ztake 12 b) = .ok f ∧ r = b.drop 4 := by
  unfold Spec.magic at h
  split at h <;> try contradiction
  rename_i v r'
  have hz : checkMagic (ztake 12 (0x43 :: 0x44 :: 0x46 :: v :: r')) =
      if v = 1 then .ok .cdf1 else if v = 2 then .ok .cdf2 else if v = 5 then .ok .cdf5 else .error .enotnc := by
    simp [checkMagic, ztake]
  rw [hz]
  split at h
  · cases h; simp [*]
  split at h
  · cases h; simp [*]
  split at h
  · cases h; simp [*]
  · contradiction

theorem header_sim {b rest : Bytes} {d : Schema} (h : Spec.header b = some (d, rest)) (hl : Limits d) :
    checkMagic (ztake 12 b) = .ok d.fmt ∧ run flatR (getBody d.fmt) (b.drop 4) = .ok (d, rest) := by
  unfold Spec.header at h
  split at h <;> try contradiction
  rename_i f r0 hm
  split at h <;> try contradiction
  rename_i nr r1 hnr
  split at h <;> try contradiction
  rename_i ds r2 hds
  split at h <;> try contradiction
  rename_i gs r3 hgs
  split at h <;> try contradiction
  rename_i vs r4 hvs
  cases h
  obtain ⟨hmag, rfl⟩ := magic_some hm
  have hdims : run flatR (getDimArray f.version) r1 = .ok (ds, r2) :=
    array_sim hds hl.ndims (dims_sim · hl.dimNames (by simpa using hl.oneRec))
  have hvars : run flatR (getVarArray f.version ds.length) r3 = .ok (vs, rest) :=
    array_sim hvs hl.nvars (many_sim var_sim · hl.vars)
  refine ⟨hmag, ?_⟩
  simp only [getBody, run_seq, nonNeg_sim hnr, hdims, attrs_sim hgs hl.ngatts hl.gatts, hvars, runF_ret]

end PnVerif.Header
