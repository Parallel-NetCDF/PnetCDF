import PnVerif.Lemmas.MetaTab
import PnVerif.Spec.MetaSpec
/-
  C07: the model file (arrays + hash tables) is abstracted to the reference file (plain lists) by
  forgetting the tables; under the file invariant `FInv` every hash lookup is a linear search, so an
  operation and its reference pass the same checks and end in the same store step.
-/
namespace PnVerif.Meta

/-- abstraction: forget the tables (and keep of ncp->old only what the reference model needs) -/
def File.abs (f : File) : SFile :=
  { format := f.cfg.format, hdr := f.hdr.abs, indef := f.indef, rdonly := f.rdonly,
    oldNvars := f.old.map (fun o => o.vars.items.length), disk := f.disk }

/-- what a header must satisfy for the tables built at open to be consistent: names pairwise
    distinct per name space (true of every header the library itself wrote: `FInv_wf`) -/
structure SHdr.Wf (s : SHdr) : Prop where
  dims : (names s.dims).Nodup
  vars : (names s.vars).Nodup
  gatts : (names s.gatts).Nodup
  vatts : ∀ v ∈ s.vars, (names v.atts).Nodup

/-- every table of the file satisfies the table invariant, names are pairwise distinct per table,
    and so they are in the header last written to the file (`disk`: a later open builds its tables
    from it).  `f.old` is not constrained: only the number of its variables is ever read (`fillRule`). -/
structure FInv (E : Env) (f : File) : Prop where
  hd : 0 < f.cfg.hd
  hv : 0 < f.cfg.hv
  hg : 0 < f.cfg.hg
  ha : 0 < f.cfg.ha
  dims : f.hdr.dims.Inv E.h f.cfg.hd
  vars : f.hdr.vars.Inv E.h f.cfg.hv
  gatts : f.hdr.gatts.Inv E.h f.cfg.hg
  vatts : ∀ v ∈ f.hdr.vars.items, v.atts.Inv E.h f.cfg.ha
  disk : ∀ d, f.disk = some d → d.Wf

variable {E : Env} {f : File} {β : Type} {w : World}

@[simp] theorem abs_indef : f.abs.indef = f.indef := rfl
@[simp] theorem abs_rdonly : f.abs.rdonly = f.rdonly := rfl
@[simp] theorem abs_format : f.abs.format = f.cfg.format := rfl
@[simp] theorem abs_disk : f.abs.disk = f.disk := rfl
@[simp] theorem abs_dims : f.abs.hdr.dims = f.hdr.dims.items := rfl
@[simp] theorem abs_gatts : f.abs.hdr.gatts = f.hdr.gatts.items := rfl
@[simp] theorem abs_vars : f.abs.hdr.vars = f.hdr.vars.items.map Var.abs := rfl
@[simp] theorem abs_ndims : f.abs.ndims = f.ndims := rfl
@[simp] theorem abs_nvars : f.abs.nvars = f.nvars := by simp [SFile.nvars, File.nvars]

theorem names_dims : names f.abs.hdr.dims = f.hdr.dims.names := rfl
theorem names_gatts : names f.abs.hdr.gatts = f.hdr.gatts.names := rfl
theorem names_vars : names (f.hdr.vars.items.map Var.abs) = f.hdr.vars.names := by
  simp [names, NArr.names, List.map_map, Function.comp_def, Var.abs, Named.name]

theorem fresh_var {nm : Name} (h : lookup (names (f.hdr.vars.items.map Var.abs)) nm = none) :
    nm ∉ f.hdr.vars.names :=
  names_vars ▸ (lookup_none_iff _ _).mp h

theorem find_dims (inv : FInv E f) (nm : Name) :
    f.hdr.dims.find E.h f.cfg.hd nm = lookup (names f.hdr.dims.items) nm :=
  NArr.find_eq_lookup inv.dims nm

theorem find_vars (inv : FInv E f) (nm : Name) :
    f.hdr.vars.find E.h f.cfg.hv nm = lookup (names (f.hdr.vars.items.map Var.abs)) nm :=
  names_vars ▸ NArr.find_eq_lookup inv.vars nm

theorem abs_getAtts (varid : Int) : f.abs.getAtts varid = (f.getAtts varid).map (fun A => A.items) := by
  unfold SFile.getAtts File.getAtts
  by_cases h1 : varid = NC_GLOBAL
  · simp [h1]
  · by_cases h2 : 0 ≤ varid
    · simp only [h1, h2, if_false, if_true, abs_vars, List.getElem?_map, Option.map_map]
      cases f.hdr.vars.items[varid.toNat]? <;> simp [Var.abs]
    · simp [h1, h2]

theorem getAtts_inv (inv : FInv E f) {varid : Int} {A : NArr Attr} (h : f.getAtts varid = some A) :
    A.Inv E.h (f.asize varid) ∧ 0 < f.asize varid := by
  unfold File.getAtts at h
  unfold File.asize
  by_cases h1 : varid = NC_GLOBAL
  · simp only [h1, if_true, Option.some.injEq] at h ⊢
    subst h; exact ⟨inv.gatts, inv.hg⟩
  · simp only [h1, if_false] at h ⊢
    by_cases h2 : 0 ≤ varid
    · simp only [h2, if_true, Option.map_eq_some_iff] at h
      obtain ⟨v, hv, rfl⟩ := h
      exact ⟨inv.vatts v (List.mem_of_getElem? hv), inv.ha⟩
    · simp [h2] at h

theorem find_atts (inv : FInv E f) {varid : Int} {A : NArr Attr} (h : f.getAtts varid = some A) (nm : Name) :
    A.find E.h (f.asize varid) nm = lookup (names A.items) nm :=
  NArr.find_eq_lookup (getAtts_inv inv h).1 nm

theorem abs_setAtts (varid : Int) (A : NArr Attr) : (f.setAtts varid A).abs = f.abs.setAtts varid A.items := by
  unfold File.setAtts SFile.setAtts
  by_cases h1 : varid = NC_GLOBAL
  · simp [h1, File.abs, Hdr.abs]
  · simp only [h1, if_false, File.abs, Hdr.abs, NArr.update]
    congr 2
    apply List.ext_getElem?
    intro i
    simp only [List.getElem?_map, List.getElem?_modify]
    cases f.hdr.vars.items[i]? with
    | none => rfl
    | some v => by_cases hi : varid.toNat = i <;> simp [hi, Var.abs]

theorem FInv_setAtts (inv : FInv E f) {varid : Int} {A : NArr Attr} (hA : A.Inv E.h (f.asize varid)) :
    FInv E (f.setAtts varid A) := by
  unfold File.setAtts
  unfold File.asize at hA
  by_cases h1 : varid = NC_GLOBAL
  · simp only [h1, if_true] at hA ⊢
    exact { inv with gatts := hA }
  · simp only [h1, if_false] at hA ⊢
    refine { inv with vars := ?_, vatts := ?_ }
    · exact NArr.update_inv inv.vars _ _ (fun _ => rfl)
    · intro v hv
      obtain ⟨j, hj, rfl⟩ := List.mem_iff_getElem.mp hv
      simp only [NArr.update, List.getElem_modify]
      split
      · exact hA
      · exact inv.vatts _ (List.getElem_mem _)

theorem FInv_wf (inv : FInv E f) : f.hdr.abs.Wf := by
  refine ⟨inv.dims.2, names_vars ▸ inv.vars.2, inv.gatts.2, ?_⟩
  · intro v hv
    simp only [Hdr.abs, List.mem_map] at hv
    obtain ⟨w, hw, rfl⟩ := hv
    exact (inv.vatts w hw).2

theorem FInv.of_hdr (inv : FInv E f) {g : File} (hc : g.cfg = f.cfg) (hh : g.hdr = f.hdr)
    (hd : ∀ d, g.disk = some d → d.Wf) : FInv E g := by
  cases g
  cases hc
  cases hh
  exact { inv with disk := hd }

theorem abs_sync : (File.sync f).abs = SFile.sync f.abs := by
  unfold File.sync SFile.sync
  by_cases h : f.indef <;> simp [h, File.abs]

theorem FInv_sync (inv : FInv E f) : FInv E (File.sync f) := by
  unfold File.sync
  split
  · exact inv
  · exact inv.of_hdr rfl rfl fun d hd => Option.some.inj hd ▸ FInv_wf inv

/-- same abstract file, same visible result, invariant kept -/
def R (E : Env) {β : Type} (x : File × β) (y : SFile × β) : Prop :=
  x.1.abs = y.1 ∧ x.2 = y.2 ∧ FInv E x.1

theorem R_err (inv : FInv E f) (e : β) : R E (f, e) (f.abs, e) :=
  ⟨rfl, rfl, inv⟩

theorem R_guard {c : Prop} [Decidable c] {e : β} {a : File × β} {b : SFile × β}
    (inv : FInv E f) (h : R E a b) : R E (if c then (f, e) else a) (if c then (f.abs, e) else b) := by
  split
  · exact R_err inv e
  · exact h

theorem R_sync {g : File} {s : SFile} {e : β} (h : R E (g, e) (s, e)) :
    R E (File.sync g, e) (SFile.sync s, e) :=
  ⟨abs_sync.trans (congrArg SFile.sync h.1), rfl, FInv_sync h.2.2⟩

theorem R_setDims (inv : FInv E f) {D : NArr Dim} (hD : D.Inv E.h f.cfg.hd) (e : β) :
    R E ({ f with hdr := { f.hdr with dims := D } }, e)
      ({ f.abs with hdr := { f.abs.hdr with dims := D.items } }, e) :=
  ⟨rfl, rfl, { inv with dims := hD }⟩

theorem R_setVars (inv : FInv E f) {V : NArr Var} (hV : V.Inv E.h f.cfg.hv)
    (hA : ∀ v ∈ V.items, v.atts.Inv E.h f.cfg.ha) {L : List SVar} (hL : V.items.map Var.abs = L) (e : β) :
    R E ({ f with hdr := { f.hdr with vars := V } }, e) ({ f.abs with hdr := { f.abs.hdr with vars := L } }, e) :=
  hL ▸ ⟨rfl, rfl, { inv with vars := hV, vatts := hA }⟩

theorem R_setAtts {varid : Int} {A : NArr Attr} (inv : FInv E f) (hA : A.Inv E.h (f.asize varid)) (e : Int) :
    R E (f.setAtts varid A, e) (f.abs.setAtts varid A.items, e) :=
  ⟨abs_setAtts varid A, rfl, FInv_setAtts inv hA⟩

/-! Every `X_refines` below goes the same way.  `simp only [abs_*, find_* inv]` states the reference side
    in the model's terms, so that both sides test the same conditions in the same order; one `R_guard`
    per leading check; `cases` on each lookup, after which `dsimp only` reduces the `match` on the
    constructor; the store step is `R_setDims`, `R_setVars` or `R_setAtts`, under `R_sync` where the
    operation may run in data mode. -/

theorem fillRule_abs (f : File) (varid : Int) (raw : Name) (xtype nelems : Nat) :
    sFillRule f.abs varid raw xtype nelems = fillRule f varid raw xtype nelems := by
  unfold sFillRule fillRule
  simp only [abs_vars, List.getElem?_map]
  by_cases h : varid ≠ NC_GLOBAL ∧ raw = fillValueName
  · simp only [h, and_self, if_true, ne_eq, not_false_eq_true]
    cases f.hdr.vars.items[varid.toNat]? with
    | none => rfl
    | some v =>
      simp only [Option.map_some, Var.abs, File.abs]
      cases f.old <;> rfl
  · simp only [h, if_false]

theorem defDim_refines (inv : FInv E f) (raw : Name) (size : Int) :
    R E (defDim E f raw size) (sDefDim E f.abs raw size) := by
  unfold defDim sDefDim
  simp only [abs_indef, abs_format, abs_dims, abs_ndims, find_dims inv]
  refine R_guard inv (R_guard inv (R_guard inv (R_guard inv ?_)))
  cases hl : lookup (names f.hdr.dims.items) (E.nfc raw) with
  | some i => exact R_err inv _
  | none =>
    refine R_setDims inv ?_ _
    exact NArr.push_inv inv.hd inv.dims _ ((lookup_none_iff _ _).mp hl)

theorem renameDim_refines (inv : FInv E f) (dimid : Int) (raw : Name) :
    R E (renameDim E f dimid raw) (sRenameDim E f.abs dimid raw) := by
  unfold renameDim sRenameDim
  simp only [abs_indef, abs_rdonly, abs_dims, abs_ndims, find_dims inv]
  refine R_guard inv (R_guard inv (R_guard inv ?_))
  cases hl : lookup (names f.hdr.dims.items) (E.nfc raw) with
  | some i => exact R_guard inv (R_err inv _)
  | none =>
    dsimp only
    cases hd : f.hdr.dims.items[dimid.toNat]? with
    | none => exact R_err inv _
    | some d =>
      dsimp only
      refine R_guard inv ?_
      obtain ⟨T, hT, hinv⟩ := NArr.rename_spec inv.hd inv.dims hd (E.nfc raw) ((lookup_none_iff _ _).mp hl)
      rw [hT]
      exact R_sync (R_setDims inv hinv _)

theorem defVar_refines (inv : FInv E f) (raw : Name) (xtype : Int) (dimids : List Int) :
    R E (defVar E f raw xtype dimids) (sDefVar E f.abs raw xtype dimids) := by
  unfold defVar sDefVar
  simp only [abs_indef, abs_format, abs_dims, abs_ndims, abs_nvars, abs_vars, find_vars inv]
  refine R_guard inv (R_guard inv (R_guard inv (R_guard inv ?_)))
  cases hl : lookup (names (f.hdr.vars.items.map Var.abs)) (E.nfc raw) with
  | some i => exact R_err inv _
  | none =>
    dsimp only
    refine R_guard inv (R_guard inv ?_)
    refine R_setVars inv (NArr.push_inv inv.hv inv.vars _ (fresh_var hl)) (fun v hv => ?_)
      (by simp [NArr.push, Var.abs, NArr.empty]) _
    rcases List.mem_append.mp hv with hv | hv
    · exact inv.vatts v hv
    · exact List.mem_singleton.mp hv ▸ NArr.empty_inv E.h f.cfg.ha

theorem renameVar_refines (inv : FInv E f) (varid : Int) (raw : Name) :
    R E (renameVar E f varid raw) (sRenameVar E f.abs varid raw) := by
  unfold renameVar sRenameVar
  simp only [abs_indef, abs_rdonly, abs_nvars, abs_vars, find_vars inv, List.getElem?_map]
  refine R_guard inv (R_guard inv (R_guard inv (R_guard inv ?_)))
  cases hl : lookup (names (f.hdr.vars.items.map Var.abs)) (E.nfc raw) with
  | some i => exact R_err inv _
  | none =>
    dsimp only
    cases hd : f.hdr.vars.items[varid.toNat]? with
    | none => exact R_err inv _
    | some v =>
      simp only [Option.map_some]
      refine R_guard inv ?_
      obtain ⟨T, hT, hinv⟩ := NArr.rename_spec inv.hv inv.vars hd (E.nfc raw) (fresh_var hl)
      rw [hT]
      refine R_sync (R_setVars inv hinv (fun w hw => ?_) (by simp [List.map_set, Var.abs, Named.setName]) _)
      rcases List.mem_or_eq_of_mem_set hw with hm | rfl
      · exact inv.vatts w hm
      · exact inv.vatts v (List.mem_of_getElem? hd)

theorem putAtt_refines (inv : FInv E f) (varid : Int) (raw : Name) (isText : Bool) (xtype : Int) (vals : List Int) :
    R E (putAtt E f varid raw isText xtype vals) (sPutAtt E f.abs varid raw isText xtype vals) := by
  unfold putAtt sPutAtt
  simp only [abs_indef, abs_rdonly, abs_format, abs_nvars, abs_getAtts, fillRule_abs]
  refine R_guard inv (R_guard inv (R_guard inv (R_guard inv (R_guard inv ?_))))
  cases hg : f.getAtts varid with
  | none => exact R_err inv _
  | some A =>
    obtain ⟨hA, hsz⟩ := getAtts_inv inv hg
    simp only [Option.map_some, find_atts inv hg]
    cases hl : lookup (names A.items) (E.nfc raw) with
    | some idx =>
      dsimp only
      cases ha : A.items[idx]? with
      | none => exact R_err inv _
      | some a =>
        dsimp only
        refine R_guard inv (R_sync (R_setAtts inv ?_ _))
        exact NArr.update_inv hA _ _ fun _ => rfl
    | none =>
      refine R_guard inv (R_sync (R_setAtts inv ?_ _))
      exact NArr.push_inv hsz hA _ ((lookup_none_iff _ _).mp hl)

theorem renameAtt_refines (inv : FInv E f) (varid : Int) (raw rawNew : Name) :
    R E (renameAtt E f varid raw rawNew) (sRenameAtt E f.abs varid raw rawNew) := by
  unfold renameAtt sRenameAtt
  simp only [abs_indef, abs_rdonly, abs_nvars, abs_getAtts]
  refine R_guard inv (R_guard inv (R_guard inv (R_guard inv ?_)))
  cases hg : f.getAtts varid with
  | none => exact R_err inv _
  | some A =>
    obtain ⟨hA, hsz⟩ := getAtts_inv inv hg
    simp only [Option.map_some, find_atts inv hg]
    cases hl : lookup (names A.items) (E.nfc raw) with
    | none => exact R_err inv _
    | some idx =>
      dsimp only
      cases hl2 : lookup (names A.items) (E.nfc rawNew) with
      | some j => exact R_err inv _
      | none =>
        dsimp only
        cases ha : A.items[idx]? with
        | none => exact R_err inv _
        | some a =>
          dsimp only
          refine R_guard inv ?_
          obtain ⟨T, hT, hinv⟩ := NArr.rename_spec hsz hA ha (E.nfc rawNew) ((lookup_none_iff _ _).mp hl2)
          rw [hT]
          exact R_sync (R_setAtts inv hinv _)

theorem delAtt_refines (inv : FInv E f) (varid : Int) (raw : Name) :
    R E (delAtt E f varid raw) (sDelAtt E f.abs varid raw) := by
  unfold delAtt sDelAtt
  simp only [abs_indef, abs_rdonly, abs_nvars, abs_getAtts]
  refine R_guard inv (R_guard inv (R_guard inv (R_guard inv ?_)))
  cases hg : f.getAtts varid with
  | none => exact R_err inv _
  | some A =>
    obtain ⟨hA, hsz⟩ := getAtts_inv inv hg
    simp only [Option.map_some, find_atts inv hg]
    cases hl : lookup (names A.items) (E.nfc raw) with
    | none => exact R_err inv _
    | some idx =>
      dsimp only
      obtain ⟨T, hT, hinv⟩ := NArr.del_spec hsz hA idx (lookup_lt hl)
      rw [hT]
      exact R_setAtts inv hinv _

theorem copyAtt_refines (E : Env) (fin : File) (varidIn : Int) (raw : Name) (fout : File) (varidOut : Int)
    (same : Bool) (invIn : FInv E fin) (inv : FInv E fout)
    (hok : E.copyChk = true ∨ ∀ Ain i ia, fin.getAtts varidIn = some Ain → lookup (names Ain.items) (E.nfc raw) = some i →
             Ain.items[i]? = some ia → ¬ (fout.cfg.format ≤ 2 ∧ ia.xtype > 6)) :
    R E (copyAtt E fin varidIn raw fout varidOut same) (sCopyAtt E fin.abs varidIn raw fout.abs varidOut same) := by
  unfold copyAtt sCopyAtt
  simp only [abs_indef, abs_rdonly, abs_nvars, abs_getAtts, abs_format]
  refine R_guard inv (R_guard inv (R_guard inv (R_guard inv ?_)))
  cases hgi : fin.getAtts varidIn with
  | none => cases fout.getAtts varidOut <;> exact R_err inv _
  | some Ain =>
    cases hgo : fout.getAtts varidOut with
    | none => exact R_err inv _
    | some Aout =>
      obtain ⟨hA, hsz⟩ := getAtts_inv inv hgo
      simp only [Option.map_some, find_atts invIn hgi, find_atts inv hgo]
      cases hl : lookup (names Ain.items) (E.nfc raw) with
      | none => exact R_err inv _
      | some i =>
        dsimp only
        cases hia : Ain.items[i]? with
        | none => exact R_err inv _
        | some ia =>
          dsimp only
          have hc : (E.copyChk = true ∧ fout.cfg.format ≤ 2 ∧ ia.xtype > 6) ↔ (fout.cfg.format ≤ 2 ∧ ia.xtype > 6) :=
            ⟨And.right, fun hc => ⟨hok.elim id fun h => absurd hc (h Ain i ia hgi hl hia), hc⟩⟩
          simp only [hc]
          refine R_guard inv ?_
          cases hlo : lookup (names Aout.items) (E.nfc raw) with
          | some idx =>
            dsimp only
            refine R_guard inv ?_
            cases hoa : Aout.items[idx]? with
            | none => exact R_err inv _
            | some oa =>
              dsimp only
              refine R_guard inv (R_sync (R_setAtts inv ?_ _))
              exact NArr.update_inv hA _ _ fun _ => rfl
          | none =>
            refine R_guard inv (R_sync (R_setAtts inv ?_ _))
            exact NArr.push_inv hsz hA _ ((lookup_none_iff _ _).mp hlo)

theorem enddef_refines (inv : FInv E f) : R E (enddef f) (sEnddef f.abs) := by
  unfold enddef sEnddef
  simp only [abs_indef]
  exact R_guard inv ⟨rfl, rfl, inv.of_hdr rfl rfl fun d hd => Option.some.inj hd ▸ FInv_wf inv⟩

theorem redef_refines (inv : FInv E f) : R E (redef f) (sRedef f.abs) := by
  unfold redef sRedef
  simp only [abs_indef, abs_rdonly, abs_nvars]
  refine R_guard inv (R_guard inv ?_)
  refine ⟨?_, rfl, inv.of_hdr rfl rfl inv.disk⟩
  simp [File.abs, Hdr.dup, File.nvars]

theorem close_refines (f : File) : close f = sClose f.abs := rfl

theorem create_refines (E : Env) (c : Cfg) (hd : 0 < c.hd) (hv : 0 < c.hv) (hg : 0 < c.hg) (ha : 0 < c.ha) :
    (create c).abs = sCreate c.format ∧ FInv E (create c) :=
  ⟨rfl, ⟨hd, hv, hg, ha, NArr.empty_inv _ _, NArr.empty_inv _ _, NArr.empty_inv _ _, (by intro v hv; cases hv),
         (by intro d h; cases h)⟩⟩

theorem openFile_refines (E : Env) (c : Cfg) (s : SHdr) (rdonly : Bool) (wf : s.Wf)
    (hd : 0 < c.hd) (hv : 0 < c.hv) (hg : 0 < c.hg) (ha : 0 < c.ha) :
    (openFile E c s rdonly).abs = sOpen c.format s rdonly ∧ FInv E (openFile E c s rdonly) := by
  refine ⟨?_, hd, hv, hg, ha, NArr.ofList_inv hd _ wf.dims, NArr.ofList_inv hv _ ?_, NArr.ofList_inv hg _ wf.gatts, ?_,
    fun d h => Option.some.inj h ▸ wf⟩
  · have hv : ∀ v : SVar, Var.abs ⟨v.name, v.xtype, v.dimids, NArr.ofList E.h c.ha v.atts⟩ = v :=
      fun v => by rw [Var.abs, NArr.ofList_items]
    simp [File.abs, openFile, sOpen, Hdr.abs, NArr.ofList_items, Function.comp_def, hv]
  · rw [List.map_map]
    exact wf.vars
  · intro v hvm
    simp only [openFile, NArr.ofList_items] at hvm
    obtain ⟨sv, hsv, rfl⟩ := List.mem_map.mp hvm
    exact NArr.ofList_inv ha sv.atts (wf.vatts sv hsv)

theorem inqDimid_eq (inv : FInv E f) (raw : Name) : inqDimid E f raw = sInqDimid E f.abs raw := by
  unfold inqDimid sInqDimid; simp only [abs_dims, find_dims inv]; rfl

theorem inqVarid_eq (inv : FInv E f) (raw : Name) : inqVarid E f raw = sInqVarid E f.abs raw := by
  unfold inqVarid sInqVarid; simp only [abs_vars, find_vars inv]; rfl

theorem inqDim_eq (dimid : Int) : inqDim f dimid = sInqDim f.abs dimid := rfl

theorem inqVar_eq (varid : Int) : inqVar f varid = sInqVar f.abs varid := by
  unfold inqVar sInqVar
  simp only [abs_nvars, abs_vars, List.getElem?_map]
  cases f.hdr.vars.items[varid.toNat]? <;> rfl

theorem inqNatts_eq (varid : Int) : inqNatts f varid = sInqNatts f.abs varid := by
  unfold inqNatts sInqNatts
  simp only [abs_nvars, abs_getAtts]
  cases f.getAtts varid <;> rfl

theorem inqAttname_eq (varid attnum : Int) : inqAttname f varid attnum = sInqAttname f.abs varid attnum := by
  unfold inqAttname sInqAttname
  simp only [abs_nvars, abs_getAtts]
  cases f.getAtts varid <;> rfl

theorem inqAttid_eq (inv : FInv E f) (varid : Int) (raw : Name) :
    inqAttid E f varid raw = sInqAttid E f.abs varid raw := by
  unfold inqAttid sInqAttid
  simp only [abs_nvars, abs_getAtts]
  cases hg : f.getAtts varid with
  | none => rfl
  | some A => simp only [Option.map_some, find_atts inv hg]; rfl

theorem inqAtt_eq (inv : FInv E f) (varid : Int) (raw : Name) :
    inqAtt E f varid raw = sInqAtt E f.abs varid raw := by
  unfold inqAtt sInqAtt
  simp only [abs_nvars, abs_getAtts]
  cases hg : f.getAtts varid with
  | none => rfl
  | some A => simp only [Option.map_some, find_atts inv hg]; rfl

theorem getAtt_eq (inv : FInv E f) (varid : Int) (raw : Name) (asText : Bool) :
    getAtt E f varid raw asText = sGetAtt E f.abs varid raw asText := by
  unfold getAtt sGetAtt
  simp only [abs_nvars, abs_getAtts]
  cases hg : f.getAtts varid with
  | none => rfl
  | some A => simp only [Option.map_some, find_atts inv hg]; rfl

def World.abs (w : World) : SWorld := ⟨w.files.map (Option.map File.abs), w.disks⟩

/-- every open file satisfies the file invariant, every closed file's header is well formed -/
structure WInv (E : Env) (w : World) : Prop where
  files : ∀ s f, w.file s = some f → FInv E f
  disks : ∀ s fmt d, w.disk s = some (fmt, d) → d.Wf

/-- the hash sizes given in create/open are ≥ 1 (size 0 is accepted by the library and overflows
    the table: note N2, property C10/C19) -/
def MOp.ok : MOp → Prop
  | .create _ c => 0 < c.hd ∧ 0 < c.hv ∧ 0 < c.hg ∧ 0 < c.ha
  | .openF _ hd hv hg ha _ => 0 < hd ∧ 0 < hv ∧ 0 < hg ∧ 0 < ha
  | _ => True

instance : DecidablePred MOp.ok := fun op => by cases op <;> unfold MOp.ok <;> infer_instance

theorem World.abs_file (w : World) (s : Nat) : w.abs.file s = (w.file s).map File.abs := by
  unfold SWorld.file World.file World.abs
  simp only [List.getElem?_map]
  cases w.files[s]? with
  | none => rfl
  | some o => cases o <;> rfl

theorem World.abs_disk (w : World) (s : Nat) : w.abs.disk s = w.disk s := rfl

theorem getD_set_some {l : List (Option β)} {s s' : Nat} {x : Option β} {v : β}
    (h : ((l.set s x)[s']?).getD none = some v) : x = some v ∨ (l[s']?).getD none = some v := by
  rw [List.getElem?_set] at h
  split at h
  · split at h
    · exact .inl h
    · cases h
  · exact .inr h

theorem WInv.disks_set (winv : WInv E w) {s : Nat} {x : Option (Nat × SHdr)}
    (hx : ∀ p, x = some p → p.2.Wf) (s' fmt : Nat) (d : SHdr)
    (h : ((w.disks.set s x)[s']?).getD none = some (fmt, d)) : d.Wf :=
  (getD_set_some h).elim (hx (fmt, d)) (winv.disks s' fmt d)

/-- the world relation: same abstract world, same result, invariant kept -/
def RW (E : Env) (x : World × Int × Int) (y : SWorld × Int × Int) : Prop :=
  x.1.abs = y.1 ∧ x.2 = y.2 ∧ WInv E x.1

theorem RW_err (winv : WInv E w) (r : Int × Int) : RW E (w, r) (w.abs, r) :=
  ⟨rfl, rfl, winv⟩

theorem RW_files (winv : WInv E w) (s : Nat) {x : Option File}
    (hx : ∀ f, x = some f → FInv E f) (d : List (Option (Nat × SHdr)))
    (hd : ∀ (s' fmt : Nat) (h : SHdr), (d[s']?).getD none = some (fmt, h) → h.Wf) (r : Int × Int) :
    RW E (⟨w.files.set s x, d⟩, r) (⟨w.abs.files.set s (x.map File.abs), d⟩, r) :=
  ⟨by simp [World.abs, List.map_set], rfl,
   fun s' f' h => (getD_set_some h).elim (hx f') (winv.files s' f'), hd⟩

theorem R_wrap {x : File × Int} {y : SFile × Int} (h : R E x y) :
    R E (x.1, x.2, (-1 : Int)) (y.1, y.2, (-1 : Int)) :=
  ⟨h.1, by rw [h.2.1], h.2.2⟩

theorem on_refines (winv : WInv E w) (s : Nat) (g : File → File × Int × Int)
    (sg : SFile → SFile × Int × Int) (h : ∀ f, w.file s = some f → FInv E f → R E (g f) (sg f.abs)) :
    RW E (w.on s g) (w.abs.on s sg) := by
  unfold World.on SWorld.on
  rw [World.abs_file]
  cases hf : w.file s with
  | none => exact RW_err winv _
  | some f =>
    obtain ⟨h1, h2, h3⟩ := h f hf (winv.files s f hf)
    simp only [Option.map_some]
    rw [← h1, ← h2]
    exact RW_files winv s (fun _ e => Option.some.inj e ▸ h3) _ winv.disks _

theorem init_winv (E : Env) (n : Nat) : WInv E (World.init n) := by
  refine ⟨?_, ?_⟩
  · intro s f h
    unfold World.file World.init at h
    simp only [List.getElem?_replicate] at h
    split at h <;> simp at h
  · intro s fmt d h
    unfold World.disk World.init at h
    simp only [List.getElem?_replicate] at h
    split at h <;> simp at h

theorem init_abs (n : Nat) : (World.init n).abs = SWorld.init n := by
  simp [World.abs, World.init, SWorld.init]

/-- the one thing the code does not check (defect, see `meta_refines_counterexample` in Props/C07.lean):
    ncmpi_copy_att copies an attribute of an extended type into a CDF-1/2 file.  `copyOK` = this
    operation is not such a copy. -/
def copyOK (E : Env) (w : World) : MOp → Bool
  | .copyAtt s varid raw s2 _ =>
    E.copyChk ||
    match w.file s, w.file s2 with
    | some fin, some fout =>
      match fin.getAtts varid with
      | some Ain =>
        match lookup (names Ain.items) (E.nfc raw) with
        | some i =>
          match Ain.items[i]? with
          | some ia => !(decide (fout.cfg.format ≤ 2) && decide (ia.xtype > 6))
          | none => true
        | none => true
      | none => true
    | _, _ => true
  | _ => true

theorem copyOK_spec {s s2 : Nat} {varid varid2 : Int} {raw : Name} {fin fout : File}
    (h : copyOK E w (.copyAtt s varid raw s2 varid2) = true) (hf : w.file s = some fin) (hf2 : w.file s2 = some fout) :
    E.copyChk = true ∨ ∀ Ain i ia, fin.getAtts varid = some Ain → lookup (names Ain.items) (E.nfc raw) = some i →
      Ain.items[i]? = some ia → ¬ (fout.cfg.format ≤ 2 ∧ ia.xtype > 6) := by
  simp only [copyOK, hf, hf2, Bool.or_eq_true] at h
  refine h.imp_right fun h Ain i ia h1 h2 h3 => ?_
  -- the three lookups resolved, `h` is the claim in Bool form
  simp [h1, h2, h3] at h
  omega

theorem copyOK_of_chk (h : E.copyChk = true) (w : World) (op : MOp) : copyOK E w op = true := by
  unfold copyOK
  split
  · rw [h, Bool.true_or]
  · rfl

/-- the program never copies an extended-type attribute into a classic-format file (checked along the
    model's own run) -/
def copiesOK (E : Env) : World → List MOp → Bool
  | _, [] => true
  | w, op :: rest => copyOK E w op && copiesOK E (wstep E w op).1 rest

theorem copiesOK_of_chk (h : E.copyChk = true) (w : World) (ops : List MOp) : copiesOK E w ops = true := by
  induction ops generalizing w with
  | nil => rfl
  | cons op rest ih => simp [copiesOK, copyOK_of_chk h, ih]

theorem wstep_refines (E : Env) (w : World) (op : MOp) (winv : WInv E w) (ok : op.ok) (cok : copyOK E w op = true) :
    RW E (wstep E w op) (swstep E w.abs op) := by
  cases op with
  | create s c =>
    simp only [wstep, swstep]
    rw [World.abs_file]
    cases hf : w.file s with
    | some f => exact RW_err winv _
    | none =>
      obtain ⟨h1, h2, h3, h4⟩ := ok
      exact RW_files winv s (fun _ e => Option.some.inj e ▸ (create_refines E c h1 h2 h3 h4).2) _
        (winv.disks_set fun _ e => by cases e) _
  | openF s hd hv hg ha write =>
    simp only [wstep, swstep]
    rw [World.abs_file, World.abs_disk]
    cases hf : w.file s with
    | some f => exact RW_err winv _
    | none =>
      cases hdk : w.disk s with
      | none => exact RW_err winv _
      | some p =>
        obtain ⟨fmt, d⟩ := p
        obtain ⟨h1, h2, h3, h4⟩ := ok
        obtain ⟨hab, hi⟩ := openFile_refines E ⟨hd, hv, hg, ha, fmt⟩ d (!write) (winv.disks s fmt d hdk) h1 h2 h3 h4
        simp only [Option.map_none]
        rw [← hab]
        exact RW_files winv s (fun _ e => Option.some.inj e ▸ hi) _ winv.disks _
  | close s =>
    simp only [wstep, swstep]
    rw [World.abs_file]
    cases hf : w.file s with
    | none => exact RW_err winv _
    | some f =>
      have inv := winv.files s f hf
      refine RW_files winv s (fun _ e => by cases e) _ (winv.disks_set fun p hp => ?_) _
      obtain ⟨d, hd, rfl⟩ := Option.map_eq_some_iff.mp hp
      unfold close at hd
      split at hd
      · exact Option.some.inj hd ▸ FInv_wf inv
      · exact inv.disk d hd
  | enddef s => exact on_refines winv s _ _ (fun f _ inv => R_wrap (enddef_refines inv))
  | redef s => exact on_refines winv s _ _ (fun f _ inv => R_wrap (redef_refines inv))
  | defDim s raw size => exact on_refines winv s _ _ (fun f _ inv => defDim_refines inv raw size)
  | renameDim s dimid raw => exact on_refines winv s _ _ (fun f _ inv => R_wrap (renameDim_refines inv dimid raw))
  | defVar s raw xtype dimids => exact on_refines winv s _ _ (fun f _ inv => defVar_refines inv raw xtype dimids)
  | renameVar s varid raw => exact on_refines winv s _ _ (fun f _ inv => R_wrap (renameVar_refines inv varid raw))
  | putAtt s varid raw isText xtype vals =>
    exact on_refines winv s _ _ (fun f _ inv => R_wrap (putAtt_refines inv varid raw isText xtype vals))
  | renameAtt s varid raw rawNew =>
    exact on_refines winv s _ _ (fun f _ inv => R_wrap (renameAtt_refines inv varid raw rawNew))
  | delAtt s varid raw => exact on_refines winv s _ _ (fun f _ inv => R_wrap (delAtt_refines inv varid raw))
  | copyAtt s varid raw s2 varid2 =>
    simp only [wstep, swstep]
    rw [World.abs_file]
    cases hf : w.file s with
    | none => exact RW_err winv _
    | some fin =>
      simp only [Option.map_some]
      exact on_refines winv s2 _ _
        (fun f hf2 inv => R_wrap (copyAtt_refines E fin varid raw f varid2 (s == s2) (winv.files s fin hf) inv (copyOK_spec cok hf hf2)))


theorem wrun_refines (E : Env) (w : World) (ops : List MOp) (winv : WInv E w) (ok : ∀ op ∈ ops, op.ok)
    (cok : copiesOK E w ops = true) :
    (wrun E w ops).1.abs = (swrun E w.abs ops).1 ∧ (wrun E w ops).2 = (swrun E w.abs ops).2 ∧
    WInv E (wrun E w ops).1 := by
  induction ops generalizing w with
  | nil => exact ⟨rfl, rfl, winv⟩
  | cons op rest ih =>
    simp only [copiesOK, Bool.and_eq_true] at cok
    obtain ⟨h1, h2, h3⟩ := wstep_refines E w op winv (ok op (by simp)) cok.1
    obtain ⟨i1, i2, i3⟩ := ih (wstep E w op).1 h3 (fun o ho => ok o (by simp [ho])) cok.2
    simp only [wrun, swrun]
    rw [← h1, ← h2]
    exact ⟨i1, by rw [i2], i3⟩

theorem reachable_FInv {n : Nat} {ops : List MOp} (ok : ∀ op ∈ ops, op.ok) (cok : copiesOK E (World.init n) ops = true)
    {s : Nat} (hf : (wrun E (World.init n) ops).1.file s = some f) : FInv E f :=
  (wrun_refines E (World.init n) ops (init_winv E n) ok cok).2.2.files s f hf

/-- what a call on `f` in data mode leaves behind: `f` itself, or a file whose header is on disk -/
def Written (f : File) (x : File × Int) : Prop := x.1 = f ∨ x.1.disk = some x.1.hdr.abs

theorem Written.err {e : Int} : Written f (f, e) := Or.inl rfl

theorem Written.guard {c : Prop} [Decidable c] {e : Int} {b : File × Int} (h : Written f b) :
    Written f (if c then (f, e) else b) := by
  split
  · exact .err
  · exact h

/-- ncmpio_write_header was reached: a file that is in data mode has, after `sync`, exactly its
    current header on disk -/
theorem Written.sync {f g : File} {e : Int} (h : g.indef = false) : Written f (File.sync g, e) :=
  Or.inr (by simp [File.sync, h])

theorem Written.setAtts {e : Int} (h : f.indef = false) (v : Int) (A : NArr Attr) :
    Written f (File.sync (f.setAtts v A), e) := by
  refine .sync ?_
  unfold File.setAtts
  split <;> exact h

theorem putAtt_disk (h : f.indef = false) (varid : Int) (raw : Name) (isText : Bool) (xt : Int) (vals : List Int) :
    Written f (putAtt E f varid raw isText xt vals) := by
  unfold putAtt
  refine .guard (.guard (.guard (.guard (.guard ?_))))
  cases f.getAtts varid with
  | none => exact .err
  | some A =>
    dsimp only
    cases A.find E.h (f.asize varid) (E.nfc raw) with
    | none => exact .guard (.setAtts h _ _)
    | some idx =>
      dsimp only
      cases A.items[idx]? with
      | none => exact .err
      | some a => exact .guard (.setAtts h _ _)

theorem renameAtt_disk (h : f.indef = false) (varid : Int) (raw rawNew : Name) :
    Written f (renameAtt E f varid raw rawNew) := by
  unfold renameAtt
  refine .guard (.guard (.guard (.guard ?_)))
  cases f.getAtts varid with
  | none => exact .err
  | some A =>
    dsimp only
    cases A.find E.h (f.asize varid) (E.nfc raw) with
    | none => exact .err
    | some idx =>
      dsimp only
      cases A.find E.h (f.asize varid) (E.nfc rawNew) with
      | some _ => exact .err
      | none =>
        dsimp only
        cases A.items[idx]? with
        | none => exact .err
        | some a =>
          refine .guard ?_
          cases A.rename E.h (f.asize varid) idx (E.nfc rawNew) with
          | none => exact .err
          | some A' => exact .setAtts h _ _

theorem renameDim_disk (h : f.indef = false) (dimid : Int) (raw : Name) :
    Written f (renameDim E f dimid raw) := by
  unfold renameDim
  refine .guard (.guard (.guard ?_))
  cases f.hdr.dims.find E.h f.cfg.hd (E.nfc raw) with
  | some i => exact .guard .err
  | none =>
    dsimp only
    cases f.hdr.dims.items[dimid.toNat]? with
    | none => exact .err
    | some d =>
      refine .guard ?_
      cases f.hdr.dims.rename E.h f.cfg.hd dimid.toNat (E.nfc raw) with
      | none => exact .err
      | some D => exact .sync h

theorem renameVar_disk (h : f.indef = false) (varid : Int) (raw : Name) :
    Written f (renameVar E f varid raw) := by
  unfold renameVar
  refine .guard (.guard (.guard (.guard ?_)))
  cases f.hdr.vars.find E.h f.cfg.hv (E.nfc raw) with
  | some _ => exact .err
  | none =>
    dsimp only
    cases f.hdr.vars.items[varid.toNat]? with
    | none => exact .err
    | some v =>
      refine .guard ?_
      cases f.hdr.vars.rename E.h f.cfg.hv varid.toNat (E.nfc raw) with
      | none => exact .err
      | some V => exact .sync h

theorem copyAtt_disk (h : f.indef = false) (fin : File) (varidIn : Int) (raw : Name) (varidOut : Int) (same : Bool) :
    Written f (copyAtt E fin varidIn raw f varidOut same) := by
  unfold copyAtt
  refine .guard (.guard (.guard (.guard ?_)))
  cases fin.getAtts varidIn with
  | none => cases f.getAtts varidOut <;> exact .err
  | some Ain =>
    cases f.getAtts varidOut with
    | none => exact .err
    | some Aout =>
      dsimp only
      cases Ain.find E.h (fin.asize varidIn) (E.nfc raw) with
      | none => exact .err
      | some i =>
        dsimp only
        cases Ain.items[i]? with
        | none => exact .err
        | some ia =>
          refine .guard ?_
          cases Aout.find E.h (f.asize varidOut) (E.nfc raw) with
          | none => exact .guard (.setAtts h _ _)
          | some idx =>
            refine .guard ?_
            cases Aout.items[idx]? with
            | none => exact .err
            | some oa => exact .guard (.setAtts h _ _)

end PnVerif.Meta
