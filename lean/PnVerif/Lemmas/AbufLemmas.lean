import PnVerif.Model.Abuf
/-
  The occupy table is described against the pending requests by `Shape`; ncmpio_abuf_malloc, the
  marking loop of req_commit / ncmpio_cancel and abuf_coalesce are each a lemma on that description.
-/
namespace PnVerif.Abuf

theorem swapn_involutive (e : Nat) : ∀ (n : Nat) (l : List UInt8), n * e ≤ l.length →
    swapn e n (swapn e n l) = l := by
  intro n
  induction n with
  | zero => intro l _; rfl
  | succ n ih =>
    intro l h
    rw [Nat.succ_mul] at h
    have hlen : (l.take e).reverse.length = e := by rw [List.length_reverse, List.length_take]; omega
    simp only [swapn]
    rw [List.take_left' hlen, List.drop_left' hlen, List.reverse_reverse, ih _ (by rw [List.length_drop]; omega)]
    exact List.take_append_drop e l

theorem swapn_length (e : Nat) : ∀ (n : Nat) (l : List UInt8), (swapn e n l).length = l.length := by
  intro n
  induction n with
  | zero => intro l; rfl
  | succ n ih =>
    intro l
    simp only [swapn, List.length_append, List.length_reverse, List.length_take, ih, List.length_drop]
    omega

theorem inSwapn_involutive (buf : List UInt8) (nelems : Int) (esize : Nat)
    (h : nelems.toNat * esize ≤ buf.length) : inSwapn (inSwapn buf nelems esize) nelems esize = buf := by
  unfold inSwapn
  split
  · rfl
  · exact swapn_involutive esize _ buf h

theorem afterExit_involutive (flag : Bool) (buf : List UInt8) (nelems : Int) (esize : Nat)
    (h : nelems.toNat * esize ≤ buf.length) :
    afterExit flag (afterExit flag buf nelems esize) nelems esize = buf := by
  cases flag
  · rfl
  · exact inSwapn_involutive buf nelems esize h

def sumSizes : List Slot → Int
  | [] => 0
  | s :: ss => s.reqSize + sumSizes ss

theorem sumSizes_append (a b : List Slot) : sumSizes (a ++ b) = sumSizes a + sumSizes b := by
  induction a with
  | nil => simp [sumSizes]
  | cons s ss ih => simp only [List.cons_append, sumSizes, ih]; omega

theorem sumSizes_reverse (a : List Slot) : sumSizes a.reverse = sumSizes a := by
  induction a with
  | nil => rfl
  | cons s ss ih => simp only [List.reverse_cons, sumSizes_append, sumSizes, ih]; omega

theorem sumSizes_nonneg (ss : List Slot) (h : ∀ s ∈ ss, 0 ≤ s.reqSize) : 0 ≤ sumSizes ss := by
  induction ss with
  | nil => exact Int.le_refl 0
  | cons x xs ih =>
    have := h x List.mem_cons_self
    have := ih (fun s hs => h s (List.mem_cons_of_mem _ hs))
    simp only [sumSizes]; omega

theorem coalGo_spec (r : List Slot) (su : Int) :
    ∃ holes, r = holes ++ (coalGo r su).1 ∧ (∀ s ∈ holes, s.isUsed = false) ∧
      (coalGo r su).2 = su - sumSizes holes ∧ ∀ s ∈ (coalGo r su).1.head?, s.isUsed = true := by
  induction r generalizing su with
  | nil => exact ⟨[], rfl, nofun, (Int.sub_zero su).symm, nofun⟩
  | cons s rest ih =>
    cases hu : s.isUsed
    · obtain ⟨holes, h1, h2, h3, h4⟩ := ih (su - s.reqSize)
      simp only [coalGo, hu, Bool.false_eq_true, if_false]
      refine ⟨s :: holes, by rw [List.cons_append, ← h1], List.forall_mem_cons.mpr ⟨hu, h2⟩, ?_, h4⟩
      rw [h3]; simp only [sumSizes]; omega
    · simp only [coalGo, hu, if_true]
      exact ⟨[], rfl, nofun, (Int.sub_zero su).symm, fun t ht => by cases ht; exact hu⟩

theorem coalesce_spec (a : A) (ht : a.tail = a.table.length) :
    ∃ holes, a.table = a.coalesce.table ++ holes ∧ (∀ s ∈ holes, s.isUsed = false) ∧
      a.coalesce.sizeUsed = a.sizeUsed - sumSizes holes ∧ a.coalesce.tail = a.coalesce.table.length ∧
      (a.coalesce.table = [] ∨ ∃ init s, a.coalesce.table = init ++ [s] ∧ s.isUsed = true) := by
  obtain ⟨holes, h1, h2, h3, h4⟩ := coalGo_spec a.table.reverse a.sizeUsed
  simp only [A.coalesce, ht, List.take_length]
  refine ⟨holes.reverse, ?_, fun s hs => h2 s (List.mem_reverse.mp hs), by rw [h3, sumSizes_reverse],
    List.length_reverse.symm, ?_⟩
  · rw [← List.reverse_append, ← h1, List.reverse_reverse]
  · cases hk : (coalGo a.table.reverse a.sizeUsed).1 with
    | nil => exact Or.inl rfl
    | cons s rest => exact Or.inr ⟨rest.reverse, s, List.reverse_cons, h4 s (by rw [hk]; rfl)⟩

/-- the pending buffered puts, in posting order -/
def bputs (ps : List PReq) : List PReq := ps.filter (fun p => decide (p.abufIndex ≥ 0))

/-- `Shape i table bs`: reading the table from index `i`, the used slots are exactly the pending
    buffered puts `bs`, in order, each at its abuf_index and with its size; the other slots are
    holes (completed or cancelled, not yet given back) of non-negative size -/
def Shape : Nat → List Slot → List PReq → Prop
  | _, [], bs => bs = []
  | i, s :: ss, bs =>
    if s.isUsed then ∃ p bs', bs = p :: bs' ∧ p.abufIndex = (i : Int) ∧ p.nbytes = s.reqSize ∧ 0 ≤ s.reqSize ∧ Shape (i + 1) ss bs'
    else 0 ≤ s.reqSize ∧ Shape (i + 1) ss bs

/-- the relation `Shape` as an inductive one (`shape_iff`), for `induction` and `cases` along the table.
    `Shape` itself stays: `AInv` is stated with it, as a plain recursive function. -/
inductive ShapeI : Nat → List Slot → List PReq → Prop
  | nil {i : Nat} : ShapeI i [] []
  | used {i : Nat} {s : Slot} {ss : List Slot} {p : PReq} {bs : List PReq} : s.isUsed = true →
      p.abufIndex = (i : Int) → p.nbytes = s.reqSize → 0 ≤ s.reqSize → ShapeI (i + 1) ss bs →
      ShapeI i (s :: ss) (p :: bs)
  | hole {i : Nat} {s : Slot} {ss : List Slot} {bs : List PReq} : s.isUsed = false → 0 ≤ s.reqSize →
      ShapeI (i + 1) ss bs → ShapeI i (s :: ss) bs

variable {i : Nat} {ss : List Slot} {bs : List PReq}

theorem shape_iff : Shape i ss bs ↔ ShapeI i ss bs := by
  constructor
  · intro h
    induction ss generalizing i bs with
    | nil => cases h; exact .nil
    | cons s ss ih =>
      cases hu : s.isUsed
      · rw [Shape, if_neg (by simp [hu])] at h
        exact .hole hu h.1 (ih h.2)
      · rw [Shape, if_pos hu] at h
        obtain ⟨p, bs', rfl, hi, hn, h0, h⟩ := h
        exact .used hu hi hn h0 (ih h)
  · intro h
    induction h with
    | nil => rfl
    | used hu hi hn h0 _ ih => rw [Shape, if_pos hu]; exact ⟨_, _, rfl, hi, hn, h0, ih⟩
    | hole hu h0 _ ih => rw [Shape, if_neg (by simp [hu])]; exact ⟨h0, ih⟩

def sumBytes : List PReq → Int
  | [] => 0
  | p :: ps => p.nbytes + sumBytes ps

theorem shape_sum (h : ShapeI i ss bs) :
    sumSizes ss = sumBytes bs + sumSizes (ss.filter (!·.isUsed)) := by
  induction h with
  | nil => rfl
  | used hu _ hn _ _ ih => simp only [sumSizes, sumBytes, List.filter_cons, hu, hn, ih, Bool.not_true,
      Bool.false_eq_true, if_false]; omega
  | hole hu _ _ ih => simp only [sumSizes, List.filter_cons, hu, ih, Bool.not_false, if_true]; omega

theorem foldl_pendingBytes (ps : List PReq) (acc : Int) :
    ps.foldl (fun acc p => if p.abufIndex ≥ 0 then acc + p.nbytes else acc) acc = acc + sumBytes (bputs ps) := by
  induction ps generalizing acc with
  | nil => exact (Int.add_zero acc).symm
  | cons p ps ih =>
    rw [List.foldl_cons, ih]
    simp only [bputs, List.filter_cons]
    by_cases h : p.abufIndex ≥ 0
    · simp only [h, if_true, decide_true, sumBytes]
      exact Int.add_assoc ..
    · simp only [h, if_false, decide_false, Bool.false_eq_true]

theorem pendingBytes_eq (ps : List PReq) : pendingBytes ps = sumBytes (bputs ps) :=
  (foldl_pendingBytes ps 0).trans (Int.zero_add _)

theorem shape_nonneg (h : ShapeI i ss bs) : ∀ s ∈ ss, 0 ≤ s.reqSize := by
  induction h with
  | nil => nofun
  | used _ _ _ h0 _ ih => exact List.forall_mem_cons.mpr ⟨h0, ih⟩
  | hole _ h0 _ ih => exact List.forall_mem_cons.mpr ⟨h0, ih⟩

theorem shape_lb (h : ShapeI i ss bs) : ∀ p ∈ bs, (i : Int) ≤ p.abufIndex := by
  induction h with
  | nil => nofun
  | used _ hi _ _ _ ih =>
    refine List.forall_mem_cons.mpr ⟨by omega, fun q hq => ?_⟩
    have := ih q hq; omega
  | hole _ _ _ ih => intro q hq; have := ih q hq; omega

theorem shape_inj (h : ShapeI i ss bs) : ∀ p ∈ bs, ∀ q ∈ bs, p.abufIndex = q.abufIndex → p = q := by
  induction h with
  | nil => nofun
  | used _ hi _ _ h ih =>
    have hlb := shape_lb h
    intro p hp q hq heq
    rcases List.mem_cons.mp hp with rfl | hp' <;> rcases List.mem_cons.mp hq with rfl | hq'
    · rfl
    · have := hlb q hq'; omega
    · have := hlb p hp'; omega
    · exact ih p hp' q hq' heq
  | hole _ _ _ ih => exact ih

theorem shape_used_mem (h : ShapeI i ss bs) {j : Nat} {t : Slot} (hj : ss[j]? = some t) (ht : t.isUsed = true) :
    ∃ p ∈ bs, p.abufIndex = ((i + j : Nat) : Int) := by
  induction h generalizing j with
  | nil => cases hj
  | @used _ _ _ p _ _ hi _ _ _ ih =>
    cases j with
    | zero => exact ⟨p, List.mem_cons_self, hi⟩
    | succ j =>
      obtain ⟨q, hq, hqj⟩ := ih hj
      exact ⟨q, List.mem_cons_of_mem _ hq, by rw [hqj]; congr 1; omega⟩
  | hole hu _ _ ih =>
    cases j with
    | zero => cases hj; rw [hu] at ht; cases ht
    | succ j =>
      obtain ⟨q, hq, hqj⟩ := ih hj
      exact ⟨q, hq, by rw [hqj]; congr 1; omega⟩

theorem shape_append (h : ShapeI i ss bs) (p : PReq) (hp : p.abufIndex = ((i + ss.length : Nat) : Int))
    (hn : 0 ≤ p.nbytes) : ShapeI i (ss ++ [⟨true, p.nbytes⟩]) (bs ++ [p]) := by
  induction h with
  | nil => exact .used rfl hp rfl hn .nil
  | used hu hi hqn h0 _ ih => exact .used hu hi hqn h0 (ih (by rw [hp, List.length_cons]; congr 1; omega))
  | hole hu h0 _ ih => exact .hole hu h0 (ih (by rw [hp, List.length_cons]; congr 1; omega))

theorem shape_holes (h : ShapeI i ss bs) (hh : ∀ s ∈ ss, s.isUsed = false) : bs = [] := by
  induction h with
  | nil => rfl
  | @used _ s _ _ _ hu => rw [hh s List.mem_cons_self] at hu; cases hu
  | hole _ _ _ ih => exact ih (List.forall_mem_cons.mp hh).2

theorem shape_drop_holes (holes : List Slot) (h : ShapeI i (ss ++ holes) bs) (hh : ∀ s ∈ holes, s.isUsed = false) :
    ShapeI i ss bs := by
  induction ss generalizing i bs with
  | nil => rw [shape_holes h hh]; exact .nil
  | cons s ss ih =>
    cases h with
    | used hu hi hn h0 h => exact .used hu hi hn h0 (ih h)
    | hole hu h0 h => exact .hole hu h0 (ih h)

/-- mark the slots whose index satisfies `P` unused, reading the table from index `i` -/
def relFrom (i : Nat) (P : Nat → Bool) (ss : List Slot) : List Slot :=
  ss.mapIdx (fun k s => if P (i + k) then { s with isUsed := false } else s)

theorem relFrom_cons (i : Nat) (P : Nat → Bool) (s : Slot) (ss : List Slot) :
    relFrom i P (s :: ss) = (if P i then { s with isUsed := false } else s) :: relFrom (i + 1) P ss := by
  simp only [relFrom, List.mapIdx_cons, Nat.add_zero, Nat.add_assoc, Nat.add_comm 1]

theorem relFrom_sum (i : Nat) (P : Nat → Bool) (ss : List Slot) : sumSizes (relFrom i P ss) = sumSizes ss := by
  induction ss generalizing i with
  | nil => rfl
  | cons s ss ih => rw [relFrom_cons]; simp only [sumSizes, ih]; split <;> rfl

/-- the marking loop: `is_used = 0` at the slots of the completed requests (those with `sel p`) -/
theorem shape_relFrom (sel : PReq → Bool) (P : Nat → Bool) (h : ShapeI i ss bs)
    (hP : ∀ p ∈ bs, P p.abufIndex.toNat = sel p) :
    ShapeI i (relFrom i P ss) (bs.filter (fun p => !sel p)) := by
  induction h with
  | nil => exact .nil
  | @used i _ _ p _ hu hi hn h0 _ ih =>
    have hp := List.forall_mem_cons.mp hP
    have hPi : P i = sel p := by rw [← hp.1, hi]; rfl
    rw [relFrom_cons, hPi, List.filter_cons]
    cases sel p
    · exact .used hu hi hn h0 (ih hp.2)
    · exact .hole rfl h0 (ih hp.2)
  | @hole i s _ _ hu h0 _ ih =>
    have hs : (if P i = true then { s with isUsed := false } else s) = s := by
      cases s; cases hu; split <;> rfl
    rw [relFrom_cons, hs]
    exact .hole hu h0 (ih hP)

theorem releaseAll_nil (a : A) : releaseAll a [] = a := by
  have htab : a.table.mapIdx (fun _ s => s) = a.table :=
    List.mapIdx_eq_iff.mpr fun _ => Option.map_id'.symm
  simp only [releaseAll, List.any_nil, Bool.false_eq_true, if_false, htab]

theorem releaseAll_eq (a : A) (ps : List PReq) :
    (releaseAll a ps).table = relFrom 0 (fun i => ps.any (fun p => decide (p.abufIndex = (i : Int)))) a.table := by
  simp only [releaseAll, relFrom, Nat.zero_add]

theorem bputs_append (ps : List PReq) (p : PReq) :
    bputs (ps ++ [p]) = if p.abufIndex ≥ 0 then bputs ps ++ [p] else bputs ps := by
  unfold bputs
  rw [List.filter_append]
  by_cases h : p.abufIndex ≥ 0 <;> simp [h]

theorem bputs_filter (ps : List PReq) (c : PReq → Bool) :
    bputs (ps.filter c) = (bputs ps).filter c := by
  unfold bputs
  rw [List.filter_filter, List.filter_filter]
  exact List.filter_congr fun x _ => Bool.and_comm _ _

theorem releaseAll_shape (a : A) (ps : List PReq) (c : PReq → Bool) (hsh : ShapeI 0 a.table (bputs ps)) :
    ShapeI 0 (releaseAll a (ps.filter c)).table (bputs (ps.filter (fun p => !c p))) := by
  rw [releaseAll_eq, bputs_filter]
  refine shape_relFrom c _ hsh fun p hp => ?_
  have hp' := List.mem_filter.mp hp
  have hcast : ((p.abufIndex.toNat : Nat) : Int) = p.abufIndex := Int.toNat_of_nonneg (by simpa using hp'.2)
  rw [Bool.eq_iff_iff, List.any_eq_true]
  constructor
  · -- the request marked at p's slot is p itself
    rintro ⟨q, hq, hqp⟩
    have hq' := List.mem_filter.mp hq
    rw [decide_eq_true_eq, hcast] at hqp
    rw [← shape_inj hsh q (List.mem_filter.mpr ⟨hq'.1, by rw [hqp]; exact hp'.2⟩) p hp hqp]
    exact hq'.2
  · exact fun hc => ⟨p, List.mem_filter.mpr ⟨hp'.1, hc⟩, by rw [hcast]; exact decide_eq_true rfl⟩

/-- the fields are spelled out in PnetCDF's terms at `Props.C13.abuf_inv`; `last` is
    "tail = 1 + the last occupied index", what abuf_coalesce restores -/
structure AInv (a : A) (ps : List PReq) : Prop where
  tail_eq : a.tail = a.table.length
  sum : a.sizeUsed = sumSizes a.table
  last : a.table = [] ∨ ∃ init s, a.table = init ++ [s] ∧ s.isUsed = true
  shape : Shape 0 a.table (bputs ps)
  cap : a.sizeUsed ≤ a.sizeAllocated

theorem AInv.shapeI {a : A} {ps : List PReq} (h : AInv a ps) : ShapeI 0 a.table (bputs ps) :=
  shape_iff.mp h.shape

/-- a buffer just attached, or reset by cancel(NC_REQ_ALL) -/
theorem ainv_empty {ps : List PReq} (h : bputs ps = []) {n : Int} (hn : 0 ≤ n) :
    AInv { sizeAllocated := n } ps :=
  ⟨rfl, rfl, Or.inl rfl, h ▸ rfl, hn⟩

theorem AInv.alloc_nonneg {a : A} {ps : List PReq} (h : AInv a ps) : 0 ≤ a.sizeAllocated := by
  have := sumSizes_nonneg a.table (shape_nonneg h.shapeI)
  have := h.sum
  have := h.cap
  omega

/-- ncmpio_abuf_malloc for a request that fits -/
theorem malloc_inv {a : A} {ps : List PReq} (h : AInv a ps) (hh : Nat) {n : Int} (hn : 0 < n)
    (hroom : ¬ a.sizeAllocated - a.sizeUsed < n) :
    AInv (a.malloc n).1 (ps ++ [⟨hh, (a.malloc n).2, n⟩]) := by
  simp only [A.malloc, h.tail_eq, List.take_length]
  refine ⟨by rw [List.length_append]; rfl, ?_, Or.inr ⟨_, _, rfl, rfl⟩, ?_, ?_⟩
  · show a.sizeUsed + n = _
    rw [sumSizes_append, h.sum]; simp only [sumSizes]; omega
  · rw [bputs_append, if_pos (Int.natCast_nonneg _)]
    exact shape_iff.mpr (shape_append h.shapeI ⟨hh, _, n⟩ (by rw [Nat.zero_add]) (Int.le_of_lt hn))
  · show a.sizeUsed + n ≤ a.sizeAllocated
    omega

/-- the fields come one by one, not as an `AInv`: between the marking loop and abuf_coalesce `last`
    fails (the entry just marked may be the last one) -/
theorem coalesce_inv {a : A} {ps : List PReq} (ht : a.tail = a.table.length) (hsum : a.sizeUsed = sumSizes a.table)
    (hsh : ShapeI 0 a.table (bputs ps)) (hcap : a.sizeUsed ≤ a.sizeAllocated) : AInv a.coalesce ps := by
  obtain ⟨holes, h1, h2, h3, h4, h5⟩ := coalesce_spec a ht
  rw [h1] at hsh
  have h0 : 0 ≤ sumSizes holes :=
    sumSizes_nonneg _ fun s hs => shape_nonneg hsh s (List.mem_append_right _ hs)
  refine ⟨h4, ?_, h5, shape_iff.mpr (shape_drop_holes holes hsh h2), ?_⟩
  · rw [h3, hsum, h1, sumSizes_append]; omega
  · show a.coalesce.sizeUsed ≤ a.sizeAllocated
    omega

theorem releaseAll_tail {a : A} (ht : a.tail = a.table.length) (ps : List PReq) :
    (releaseAll a ps).tail = (releaseAll a ps).table.length :=
  ht.trans List.length_mapIdx.symm

/-- req_commit / ncmpio_cancel: the marking loop, then abuf_coalesce -/
theorem release_coalesce_inv {a : A} {ps : List PReq} (h : AInv a ps) (c : PReq → Bool) :
    AInv (releaseAll a (ps.filter c)).coalesce (ps.filter (fun p => !c p)) := by
  refine coalesce_inv (releaseAll_tail h.tail_eq _) ?_ (releaseAll_shape a ps c h.shapeI) h.cap
  rw [releaseAll_eq, relFrom_sum]
  exact h.sum

/-- `c` completes the most recently posted buffered puts: those at or above the threshold index `k` -/
theorem release_coalesce_noHoles {a : A} {ps : List PReq} (h : AInv a ps) (hn : ∀ t ∈ a.table, t.isUsed = true)
    (c : PReq → Bool) (k : Int) (hk : ∀ p ∈ bputs ps, (c p = true ↔ k ≤ p.abufIndex)) :
    ∀ t ∈ (releaseAll a (ps.filter c)).coalesce.table, t.isUsed = true := by
  have hsh := releaseAll_shape a ps c h.shapeI
  obtain ⟨holes, hsplit, _, _, _, hlast⟩ := coalesce_spec _ (releaseAll_tail h.tail_eq (ps.filter c))
  generalize (releaseAll a (ps.filter c)).coalesce.table = T at hsplit hlast ⊢
  -- a slot of the marked table that is still in use lies below the threshold
  have hlt : ∀ (j : Nat) t, (T ++ holes)[j]? = some t → t.isUsed = true → (j : Int) < k := by
    intro j t hj ht
    rw [← hsplit] at hj
    obtain ⟨p, hp, hpj⟩ := shape_used_mem hsh hj ht
    rw [bputs_filter] at hp
    obtain ⟨hp, hcp⟩ := List.mem_filter.mp hp
    have : ¬ k ≤ p.abufIndex := fun hle => by rw [(hk p hp).mpr hle] at hcp; cases hcp
    omega
  -- a slot that is no longer in use was marked, so it lies at or above the threshold
  have hge : ∀ (j : Nat) t, (T ++ holes)[j]? = some t → t.isUsed = false → k ≤ (j : Int) := by
    intro j t hj ht
    rw [← hsplit, releaseAll_eq, relFrom, List.getElem?_mapIdx] at hj
    obtain ⟨t0, ht0, rfl⟩ := Option.map_eq_some_iff.mp hj
    split at ht
    · rename_i hany
      obtain ⟨p, hp, hpj⟩ := List.any_eq_true.mp hany
      obtain ⟨hp, hcp⟩ := List.mem_filter.mp hp
      rw [Nat.zero_add, decide_eq_true_eq] at hpj
      have := (hk p (List.mem_filter.mpr ⟨hp, by rw [hpj]; exact decide_eq_true (Int.natCast_nonneg j)⟩)).mp hcp
      omega
    · rw [hn t0 (List.mem_of_getElem? ht0)] at ht; cases ht
  rcases hlast with rfl | ⟨init, s, rfl, hs⟩
  · nofun
  · intro t ht
    obtain ⟨j, hj⟩ := List.getElem?_of_mem ht
    have hjlt : j < (init ++ [s]).length := (List.getElem?_eq_some_iff.mp hj).1
    have h1 := hlt init.length s (by simp) hs
    cases hu : t.isUsed
    · have h2 := hge j t (by rw [List.getElem?_append_left hjlt]; exact hj) hu
      rw [List.length_append, List.length_singleton] at hjlt
      omega
    · rfl

end PnVerif.Abuf
