import PnVerif.Lemmas.ReqQueueWait
/-
  post, cancel and wait keep the invariant.  Every path of extract_reqs but the subset path (the three
  constants, the three shortcuts) takes each queue whole or leaves it alone (`wholeExt`).
-/
namespace PnVerif.ReqQueue

theorem QInv.empty (q : Q) (par : Int) (h : Rep q []) : QInv q par [] :=
  ⟨h, by intro e he; simp at he, List.Pairwise.nil, by intro e he; simp at he, by intro e he; simp at he,
   fun h => absurd rfl h⟩

theorem insert_perm {α : Type} (v : List α) (p : Nat) (x : α) : (v.take p ++ [x] ++ v.drop p).Perm (x :: v) := by
  have h1 : (v.take p ++ [x] ++ v.drop p).Perm ([x] ++ v.take p ++ v.drop p) :=
    List.Perm.append_right _ List.perm_append_comm
  have h2 : [x] ++ v.take p ++ v.drop p = x :: v := by
    simp [List.take_append_drop]
  rw [h2] at h1; exact h1

theorem postId_spec {q : Q} {par : Int} {v : List Entry} (h : QInv q par v) {first : Int}
    (hfirst : first % 2 = par ∧ 0 ≤ first) :
    (postId q first) % 2 = par ∧ 0 ≤ postId q first ∧ (∀ e ∈ v, e.c.id < postId q first) := by
  unfold postId
  by_cases h0 : q.numLead = 0
  · rw [if_pos h0]
    have : v = [] := h.rep.eq_nil_of_numLead h0
    subst this
    exact ⟨hfirst.1, hfirst.2, by simp⟩
  · rw [if_neg h0]
    have hne : v ≠ [] := by
      intro hv; rw [hv] at h; exact h0 h.rep.numLead
    have hm := h.maxPar hne
    obtain ⟨e0, he0⟩ := List.exists_mem_of_ne_nil v hne
    have h00 := h.ids e0 he0
    refine ⟨by omega, by omega, ?_⟩
    intro e he; have := (h.ids e he).2.2; omega

theorem forall_mem_insert {α : Type} {v : List α} {p : Nat} {x : α} {P : α → Prop} (hx : P x)
    (hv : ∀ e ∈ v, P e) : ∀ e ∈ v.take p ++ [x] ++ v.drop p, P e := fun e he =>
  (List.mem_cons.mp ((insert_perm v p x).mem_iff.mp he)).elim (fun h => h ▸ hx) (hv e)

theorem post_inv (q : Q) (par : Int) (v : List Entry) (h : QInv q par v)
    (first : Int) (hfirst : first % 2 = par ∧ 0 ≤ first) (sorted : Bool)
    (varBegin reqOff abuf : Int) (tag : Nat) (subs : List Sub) (maxRec : Int) (hsubs : subs ≠ []) :
    QInv (q.post first sorted varBegin reqOff abuf tag subs maxRec).1 par
      (v.take (postPos q sorted reqOff) ++ [newEntry (postId q first) varBegin abuf maxRec tag subs] ++
       v.drop (postPos q sorted reqOff)) := by
  have hp := postPos_le q v h.rep sorted reqOff
  have hrep := post_rep q (v.take (postPos q sorted reqOff)) (v.drop (postPos q sorted reqOff))
    (by rw [List.take_append_drop]; exact h.rep) first sorted varBegin reqOff abuf tag subs maxRec
    (by rw [List.length_take, Nat.min_eq_left hp])
  have hmax : (q.post first sorted varBegin reqOff abuf tag subs maxRec).1.maxId = postId q first := rfl
  have hid := postId_spec h hfirst
  refine ⟨hrep, forall_mem_insert rfl h.clean, ?_, forall_mem_insert hsubs h.noEmpty, ?_, fun _ => hmax ▸ hid.1⟩
  · unfold Distinct
    refine (List.Perm.pairwise_iff (fun {a b} (hab : a.c.id ≠ b.c.id) => fun hba => hab hba.symm)
      (insert_perm v _ _)).mpr ?_
    refine List.pairwise_cons.mpr ⟨fun e he => ?_, h.distinct⟩
    have := hid.2.2 e he
    simp only [newEntry]; omega
  · rw [hmax]
    refine forall_mem_insert ⟨hid.1, hid.2.1, Int.le_refl _⟩ fun e he => ?_
    have := h.ids e he
    have := hid.2.2 e he
    exact ⟨by omega, by omega, by omega⟩

theorem remove_maxId (q : Q) (j : Nat) (l : Lead) : (q.remove j l).maxId = q.maxId := rfl

theorem QInv.cancel_one {q : Q} {par : Int} {v : List Entry} (h : QInv q par v) (rid : Int) :
    match findLead rid 0 q.lead with
    | some (j, l) => QInv (q.remove j l) par (v.filter (fun e => decide (e.c.id ≠ rid)))
    | none => ∀ e ∈ v, e.c.id ≠ rid := by
  rw [h.rep.lead]
  rcases findLead_canon rid v h.ne_null 0 0 with ⟨h1, h2⟩ | ⟨a, e, d, rfl, hf, hid, ha⟩
  · rw [h1]; exact h2
  · have hd : ∀ x ∈ d, x.c.id ≠ rid := fun x hx =>
      hid ▸ Ne.symm ((List.pairwise_cons.mp (List.pairwise_append.mp h.distinct).2.1).1 x hx)
    have hfil : (a ++ e :: d).filter (fun e => decide (e.c.id ≠ rid)) = a ++ d := by
      rw [List.filter_append, List.filter_cons_of_neg (by simp [hid]),
          List.filter_eq_self.mpr (by simpa using ha), List.filter_eq_self.mpr (by simpa using hd)]
    rw [hf, hfil]
    simp only [Nat.zero_add]
    exact h.of_sublist (hfil ▸ List.filter_sublist) (remove_rep q a d e h.rep) rfl

theorem QInv.freeIfEmpty {q : Q} {par : Int} {v : List Entry} (h : QInv q par v) : QInv q.freeIfEmpty par v :=
  h.of_sublist (List.Sublist.refl v) (freeIfEmpty_rep q v h.rep) (by unfold Q.freeIfEmpty; split <;> rfl)

theorem cancelLoop_inv (ids : List Int) : ∀ (i : Nat) (r : CancelRes) (vP vG : List Entry),
    QInv r.nc.put 0 vP → QInv r.nc.get 1 vG →
    QInv (cancelLoop i ids r).nc.put 0 (vP.filter (fun e => decide (e.c.id ∉ ids))) ∧
    QInv (cancelLoop i ids r).nc.get 1 (vG.filter (fun e => decide (e.c.id ∉ ids))) := by
  induction ids with
  | nil =>
    intro i r vP vG hP hG
    simpa [cancelLoop, List.filter_eq_self.mpr (fun (_ : Entry) _ => rfl)] using And.intro hP hG
  | cons rid rest ih =>
    intro i r vP vG hP hG
    have key : ∀ v : List Entry, v.filter (fun e => decide (e.c.id ∉ rid :: rest))
        = (v.filter (fun e => decide (e.c.id ≠ rid))).filter (fun e => decide (e.c.id ∉ rest)) := fun v => by
      rw [List.filter_filter]
      exact List.filter_congr fun x _ => by by_cases h : x.c.id = rid <;> simp [h]
    -- a queue that does not hold `rid` is left alone
    have same : ∀ {q : Q} {par : Int} {v : List Entry}, QInv q par v → (∀ e ∈ v, e.c.id ≠ rid) →
        QInv q par (v.filter (fun e => decide (e.c.id ≠ rid))) := fun h hne => by
      rwa [List.filter_eq_self.mpr (by simpa using hne)]
    have cP := hP.cancel_one rid
    have cG := hG.cancel_one rid
    rw [key vP, key vG]
    unfold cancelLoop
    simp only []
    by_cases hn : rid = NC_REQ_NULL
    · rw [if_pos hn]
      exact ih _ _ _ _ (same hP (hn ▸ hP.ne_null)) (same hG (hn ▸ hG.ne_null))
    · rw [if_neg hn]
      by_cases hodd : rid % 2 = 1
      · rw [if_pos hodd]
        have hPn := hP.ne_of_parity (rid := rid) (by omega)
        cases hf : findLead rid 0 r.nc.get.lead with
        | none => rw [hf] at cG; exact ih _ _ _ _ (same hP hPn) (same hG cG)
        | some jl => rw [hf] at cG; exact ih _ _ _ _ (same hP hPn) cG
      · rw [if_neg hodd]
        have hGn := hG.ne_of_parity (rid := rid) (by omega)
        cases hf : findLead rid 0 r.nc.put.lead with
        | none => rw [hf] at cP; exact ih _ _ _ _ (same hP cP) (same hG hGn)
        | some jl => rw [hf] at cP; exact ih _ _ _ _ cP (same hG hGn)

theorem cancel_pos {nc : NC} {vP vG : List Entry} (hP : QInv nc.put 0 vP) (hG : QInv nc.get 1 vG)
    {num : Int} (hpos : 0 < num) (ids : List Int) (st : Option (List Int)) :
    QInv (cancel nc num ids st).nc.put 0 (vP.filter (fun e => decide (e.c.id ∉ ids))) ∧
    QInv (cancel nc num ids st).nc.get 1 (vG.filter (fun e => decide (e.c.id ∉ ids))) := by
  have hl := cancelLoop_inv ids 0 { nc := nc, ids := [], st := st, err := NC_NOERR } vP vG hP hG
  have h0 : ¬ num = 0 := by omega
  have hlt : ¬ num < NC_PUT_REQ_ALL := by unfold NC_PUT_REQ_ALL; omega
  have hneg : ¬ num < 0 := by omega
  have hg : ¬ (num = NC_GET_REQ_ALL ∨ num = NC_REQ_ALL) := by unfold NC_GET_REQ_ALL NC_REQ_ALL; omega
  have hp : ¬ (num = NC_PUT_REQ_ALL ∨ num = NC_REQ_ALL) := by unfold NC_PUT_REQ_ALL NC_REQ_ALL; omega
  unfold cancel
  simp only [h0, hlt, hneg, hg, hp, if_false]
  exact ⟨hl.1.freeIfEmpty, hl.2.freeIfEmpty⟩

theorem cancel_inv (nc : NC) (h : Inv nc) (num : Int) (ids : List Int) (st : Option (List Int)) :
    Inv (cancel nc num ids st).nc := by
  obtain ⟨vP, vG, hP, hG⟩ := h
  by_cases hpos : 0 < num
  · exact ⟨_, _, cancel_pos hP hG hpos ids st⟩
  · have hcP : QInv nc.put.clear 0 [] := QInv.empty _ _ (clear_rep _)
    have hcG : QInv nc.get.clear 1 [] := QInv.empty _ _ (clear_rep _)
    unfold cancel
    split
    · exact ⟨vP, vG, hP, hG⟩
    · split
      · exact ⟨vP, vG, hP, hG⟩
      · -- one of the three constants: the named queues are emptied
        rw [if_pos (by omega)]
        simp only []
        split <;> split
        · exact ⟨_, _, hcP, hcG⟩
        · exact ⟨_, _, hcP, hG⟩
        · exact ⟨_, _, hP, hcG⟩
        · exact ⟨_, _, hP, hG⟩

theorem cleanupGo_allflagged (L : List Lead) (h : ∀ l ∈ L, l.c.toFree = true) :
    ∀ (i j : Nat) (nl : List NonLead), cleanupGo i j L nl = ([], nl, L) := by
  induction L with
  | nil => intro i j nl; rfl
  | cons l ls ih =>
    intro i j nl
    have hl := h l List.mem_cons_self
    simp only [cleanupGo, hl, if_true]
    rw [ih (fun x hx => h x (List.mem_cons_of_mem _ hx))]

theorem flagAll_flagged (L : List Lead) : ∀ l ∈ flagAll L, l.c.toFree = true := by
  intro l hl
  obtain ⟨x, _, rfl⟩ := List.mem_map.mp hl
  rfl

theorem flagAll_slot (L : List Lead) : ∀ i, flagAll (slotByPosition i L) = flagAll (slotByPosition i L) := fun _ => rfl

theorem slotByPosition_length (L : List Lead) : ∀ i, (slotByPosition i L).length = L.length := by
  induction L with
  | nil => intro i; rfl
  | cons l ls ih => intro i; simp [slotByPosition, ih]

theorem cleanup_zero (q : Q) : q.cleanup 0 = (q, []) := by
  unfold Q.cleanup; simp

/-- a queue handed to the I/O as a whole; `L` = its leads, with or without status slots by position -/
def Q.handOver (q : Q) (L : List Lead) : Q := { q with lead := flagAll L, nonlead := [], numReqs := 0 }

theorem handOver_cleanup (q : Q) (L : List Lead) (hL : L.length = q.numLead) :
    (q.handOver L).cleanup q.numLead = (q.clear, flagAll L) := by
  unfold Q.cleanup
  by_cases h0 : q.numLead = 0
  · -- no lead at all: nothing runs, and the queue differs from the cleared one only in `numLead` = 0
    have : L = [] := List.eq_nil_of_length_eq_zero (hL.trans h0)
    subst this
    rw [if_pos h0]
    cases q
    dsimp only at h0
    subst h0
    rfl
  · rw [if_neg h0]
    simp [Q.handOver, Q.clear, cleanupGo_allflagged (flagAll L) (flagAll_flagged L)]

/-- the lead list a shortcut flags: status slots by position when statuses[] is given -/
def posSlots (st : Option (List Int)) (L : List Lead) : List Lead := if st.isSome then slotByPosition 0 L else L

theorem posSlots_length (st : Option (List Int)) (L : List Lead) : (posSlots st L).length = L.length := by
  unfold posSlots; split
  · exact slotByPosition_length L 0
  · rfl

/-- what extract_reqs returns when it takes the put queue whole iff `P = some L` (`L` its leads), the
    get queue likewise -/
def wholeExt (nc : NC) (ids : List Int) (st : Option (List Int)) (P G : Option (List Lead)) : Ext :=
  { nc := { nc with put := match P with | some L => nc.put.handOver L | none => nc.put,
                    get := match G with | some L => nc.get.handOver L | none => nc.get },
    ids := ids, st := st,
    numWLead := if P.isSome then nc.put.numLead else 0, numW := if P.isSome then nc.put.numReqs else 0,
    putList := if P.isSome then nc.put.nonlead else [],
    numRLead := if G.isSome then nc.get.numLead else 0, numR := if G.isSome then nc.get.numReqs else 0,
    getList := if G.isSome then nc.get.nonlead else [] }

section
variable (nc : NC) {num : Int} (ids : List Int) (st : Option (List Int)) (V : Variant)

theorem length_of_ite_some {c : Prop} [Decidable c] {X L : List Lead}
    (h : (if c then none else some X) = some L) : L.length = X.length := by
  split at h <;> cases h
  rfl

theorem extract_const (hc : IsConst num) :
    extract nc num ids st V = wholeExt nc ids st (if num = NC_GET_REQ_ALL then none else some nc.put.lead)
      (if num = NC_PUT_REQ_ALL then none else some nc.get.lead) := by
  rcases hc with rfl | rfl | rfl <;> rfl

theorem extract_sc1 (hc : ¬ IsConst num) (hs1 : sc1 V nc num ids) :
    extract nc num ids st V = wholeExt nc (nullIds ids) (st.map (zeroFirst nc.put.numLead))
      (some (posSlots st nc.put.lead)) none := by
  unfold IsConst at hc; unfold extract; dsimp only; rw [if_neg hc, if_pos hs1]; rfl

theorem extract_sc2 (hc : ¬ IsConst num) (hs1 : ¬ sc1 V nc num ids) (hs2 : sc2 V nc num ids) :
    extract nc num ids st V = wholeExt nc (nullIds ids) (st.map (zeroFirst nc.get.numLead))
      none (some (posSlots st nc.get.lead)) := by
  unfold IsConst at hc; unfold extract; dsimp only; rw [if_neg hc, if_neg hs1, if_pos hs2]; rfl

theorem extract_sc3 (hc : ¬ IsConst num) (hs1 : ¬ sc1 V nc num ids) (hs2 : ¬ sc2 V nc num ids)
    (hs3 : sc3 V nc num ids st) :
    extract nc num ids st V = wholeExt nc (nullIds ids) st (some nc.put.lead) (some nc.get.lead) := by
  unfold IsConst at hc; unfold extract; dsimp only; rw [if_neg hc, if_neg hs1, if_neg hs2, if_pos hs3]; rfl

theorem extract_nonsubset (h : ¬ SubsetPath nc num ids st V) :
    ∃ ids' st' P G, extract nc num ids st V = wholeExt nc ids' st' P G ∧
      (∀ L, P = some L → L.length = nc.put.lead.length) ∧ (∀ L, G = some L → L.length = nc.get.lead.length) := by
  by_cases hc : IsConst num
  · exact ⟨_, _, _, _, extract_const nc ids st V hc, fun _ => length_of_ite_some, fun _ => length_of_ite_some⟩
  · by_cases hs1 : sc1 V nc num ids
    · exact ⟨_, _, _, _, extract_sc1 nc ids st V hc hs1, by simp [posSlots_length], by simp⟩
    · by_cases hs2 : sc2 V nc num ids
      · exact ⟨_, _, _, _, extract_sc2 nc ids st V hc hs1 hs2, by simp, by simp [posSlots_length]⟩
      · by_cases hs3 : sc3 V nc num ids st
        · exact ⟨_, _, _, _, extract_sc3 nc ids st V hc hs1 hs2 hs3, by simp, by simp⟩
        · exact absurd ⟨hc, hs1, hs2, hs3⟩ h

end

theorem wait_whole {nc : NC} {num : Int} {ids ids' : List Int} {st st' : Option (List Int)} {V : Variant}
    {P G : Option (List Lead)} (hx : extract nc num ids st V = wholeExt nc ids' st' P G)
    (hP : ∀ L, P = some L → L.length = nc.put.lead.length) (hG : ∀ L, G = some L → L.length = nc.get.lead.length)
    (hlP : nc.put.lead.length = nc.put.numLead) (hlG : nc.get.lead.length = nc.get.numLead) :
    (wait nc num ids st V).ids = ids' ∧
    (wait nc num ids st V).nc.put = (if P.isSome then nc.put.clear else nc.put) ∧
    (wait nc num ids st V).donePut = (P.map flagAll).getD [] ∧
    (wait nc num ids st V).nc.get = (if G.isSome then nc.get.clear else nc.get) ∧
    (wait nc num ids st V).doneGet = (G.map flagAll).getD [] := by
  rw [wait_ok hx rfl]
  have cP : ∀ L, P = some L → (nc.put.handOver L).cleanup nc.put.numLead = (nc.put.clear, flagAll L) :=
    fun L h => handOver_cleanup _ _ ((hP L h).trans hlP)
  have cG : ∀ L, G = some L → (nc.get.handOver L).cleanup nc.get.numLead = (nc.get.clear, flagAll L) :=
    fun L h => handOver_cleanup _ _ ((hG L h).trans hlG)
  -- per queue: taken whole (`cP`, `cG`), or left alone (`cleanup_zero`)
  cases P <;> cases G <;> simp [wholeExt, cleanup_zero, cP, cG]

theorem wait_inv (nc : NC) (h : Inv nc) (num : Int) (ids : List Int) (st : Option (List Int)) (V : Variant := {})
    (herr : (wait nc num ids st V).err = NC_NOERR) : Inv (wait nc num ids st V).nc := by
  obtain ⟨vP, vG, hP, hG⟩ := h
  by_cases hs : SubsetPath nc num ids st V
  · have hw := wait_subset hP hG hs herr
    exact ⟨_, _, hw.put.inv, hw.get.inv⟩
  · obtain ⟨ids', st', P, G, hx, hPl, hGl⟩ := extract_nonsubset nc ids st V hs
    obtain ⟨-, hp, -, hg, -⟩ := wait_whole hx hPl hGl (lead_length_of_rep hP.rep) (lead_length_of_rep hG.rep)
    rw [Inv, hp, hg]
    refine ⟨if P.isSome then [] else vP, if G.isSome then [] else vG, ?_, ?_⟩
    · split
      · exact QInv.empty _ _ (clear_rep _)
      · exact hP
    · split
      · exact QInv.empty _ _ (clear_rep _)
      · exact hG

theorem newNumrecs_allflagged (L : List Lead) (h : ∀ l ∈ L, l.c.toFree = true) :
    ∀ (a : Int), 0 ≤ a →
      L.foldl (fun acc l => if l.c.maxRec < 0 ∨ ¬ l.c.toFree then acc
                            else if acc < l.c.maxRec then l.c.maxRec else acc) a
        = maxRecOf a L ∧ a ≤ maxRecOf a L := by
  intro a ha
  have := newNumrecs_eq a L.length L (Nat.le_refl _) ha
  rw [List.filter_eq_self.mpr h] at this
  unfold newNumrecs at this
  rw [List.take_length] at this
  exact ⟨this, maxRecOf_ge L a⟩

end PnVerif.ReqQueue
