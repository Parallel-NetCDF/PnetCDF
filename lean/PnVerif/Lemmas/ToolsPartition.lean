import PnVerif.Model.Tools
import PnVerif.Props.C16
/-
  Lemmas about the per-rank partition of ncmpidiff (Model/Tools.lean, `rankBlock`, `rankBox`).  `rankBlock` is the
  block computation `Fill.share` (the same C text in fillerup_aggregate; `rankBlock_eq_share`), so the blocks tile the
  partitioned dimension by `C16.shares_partition` (`rankBlock_partition`).
-/

namespace PnVerif.Tools
open PnVerif.Props.C16 (shares_partition InShare)

theorem rankBlock_eq_share (L n r : Nat) : rankBlock L n r = Fill.share L n r := rfl

theorem rankBlock_partition (L n : Nat) (hn : 1 ≤ n) :
    (∀ i, i < L → ∃ r, r < n ∧ ((rankBlock L n r).1 ≤ i ∧ i < (rankBlock L n r).1 + (rankBlock L n r).2) ∧
      ∀ r', r' < n → ((rankBlock L n r').1 ≤ i ∧ i < (rankBlock L n r').1 + (rankBlock L n r').2) → r' = r) ∧
    ∀ r, r < n → (rankBlock L n r).1 + (rankBlock L n r).2 ≤ L := by
  have h := shares_partition L n hn
  simp only [InShare, ← rankBlock_eq_share] at h
  exact h

theorem inBox_cons (i : Nat) (is : List Nat) (p : Nat × Nat) (bs : List (Nat × Nat)) :
    inBox (i :: is) (p :: bs) = (decide (p.1 ≤ i) && decide (i < p.1 + p.2) && inBox is bs) := by
  cases p; rfl

theorem inShape_cons (i s : Nat) (is rest : List Nat) :
    inShape (i :: is) (s :: rest) = true ↔ i < s ∧ inShape is rest = true := by
  simp [inShape, inBox_cons]

theorem rankBox_cons (nprocs r s : Nat) (rest : List Nat) (i : Nat) (is : List Nat) :
    inBox (i :: is) (rankBox nprocs r (s :: rest)) = true ↔
      if s ≥ nprocs then ((rankBlock s nprocs r).1 ≤ i ∧ i < (rankBlock s nprocs r).1 + (rankBlock s nprocs r).2) ∧
        inShape is rest = true
      else i < s ∧ inBox is (rankBox nprocs r rest) = true := by
  rw [show rankBox nprocs r (s :: rest) = if s ≥ nprocs then rankBlock s nprocs r :: rest.map (fun x => (0, x))
      else (0, s) :: rankBox nprocs r rest from rfl]
  split <;> simp [inBox_cons, inShape]

theorem box_inside (nprocs r : Nat) (hn : 1 ≤ nprocs) (hr : r < nprocs) : ∀ (shape idx : List Nat),
    inBox idx (rankBox nprocs r shape) = true → inShape idx shape = true := by
  intro shape
  induction shape with
  | nil => intro idx h; exact h
  | cons s rest ih =>
    intro idx h
    cases idx with
    | nil => unfold rankBox at h; split at h <;> cases h
    | cons i is =>
      rw [rankBox_cons] at h
      rw [inShape_cons]
      split at h
      · have hin : (rankBlock s nprocs r).1 + (rankBlock s nprocs r).2 ≤ s := (rankBlock_partition s nprocs hn).2 r hr
        exact ⟨by omega, h.2⟩
      · exact ⟨h.1, ih is h.2⟩

end PnVerif.Tools
