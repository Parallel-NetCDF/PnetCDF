import PnVerif.Model.Scs
import PnVerif.Spec.InBounds
/-
  C15.  `checkSCS` over exact integers is rewritten into one `if` per phase (`scsU`) and that form is
  compared with `InBounds`; the other readings of the arithmetic differ only inside `check_EEDGE`.
-/
namespace PnVerif.Scs
open PnVerif.Spec.InBounds

theorem mul_ge_self {a s : Int} (ha : 0 ≤ a) (hs : 1 ≤ s) : a ≤ a * s := by
  have : a * 1 ≤ a * s := Int.mul_le_mul_of_nonneg_left hs ha
  simpa using this

theorem mul_nonpos_of {a s : Int} (ha : 0 ≤ a) (hs : s ≤ 0) : a * s ≤ 0 :=
  Int.mul_nonpos_of_nonneg_of_nonpos ha hs

theorem ite_ite_same {α : Type} {a b : Prop} [Decidable a] [Decidable b] (x y : α) :
    (if a then x else if b then x else y) = if a ∨ b then x else y := by
  by_cases ha : a
  · rw [if_pos ha, if_pos (Or.inl ha)]
  by_cases hb : b
  · rw [if_neg ha, if_pos hb, if_pos (Or.inr hb)]
  · rw [if_neg ha, if_neg hb, if_neg (not_or.mpr ⟨ha, hb⟩)]

theorem ite_ite_and {α : Type} {a b : Prop} [Decidable a] [Decidable b] (x y : α) :
    (if a then (if b then x else y) else y) = if a ∧ b then x else y := by
  by_cases ha : a
  · simp only [ha, if_true, true_and]
  · rw [if_neg ha, if_neg (fun h => ha h.1)]

theorem einvalcoords_ne : NC_EINVALCOORDS ≠ NC_NOERR := by decide
theorem eedge_ne : NC_EEDGE ≠ NC_NOERR := by decide
theorem enegativecnt_ne : NC_ENEGATIVECNT ≠ NC_NOERR := by decide

/-- `err = ..; if (err != NC_NOERR) return err;` after a test that yields the code `e`: the first
    error decides -/
theorem ite_ne_noerr {p : Prop} [Decidable p] {e : Int} (he : e ≠ NC_NOERR) (x k : Int) :
    (if (if p then e else x) ≠ NC_NOERR then (if p then e else x) else k) =
      if p then e else if x ≠ NC_NOERR then x else k := by
  by_cases h : p
  · rw [if_pos h, if_pos he, if_pos h]
  · rw [if_neg h, if_neg h]

theorem ite_noerr_ne (k : Int) : (if NC_NOERR ≠ NC_NOERR then NC_NOERR else k) = k :=
  if_neg fun h => h rfl

theorem ite_eq_noerr_iff {p : Prop} [Decidable p] {e : Int} (he : e ≠ NC_NOERR) (x : Int) :
    (if p then e else x) = NC_NOERR ↔ ¬ p ∧ x = NC_NOERR := by
  by_cases h : p
  · rw [if_pos h]; exact ⟨fun h' => absurd h' he, fun h' => absurd h h'.1⟩
  · rw [if_neg h]; exact ⟨fun h' => ⟨h, h'⟩, And.right⟩

theorem exists_mem_cons_iff {α : Type} (p : α → Prop) (a : α) (l : List α) :
    (∃ x, x ∈ a :: l ∧ p x) ↔ p a ∨ ∃ x, x ∈ l ∧ p x := by
  simp only [List.mem_cons, or_and_right, exists_or, exists_eq_left]

theorem checkEINVALCOORDS_eq (strict : Bool) (s c sh : Int) :
    checkEINVALCOORDS strict s c sh = if BadCoord strict s c sh then NC_EINVALCOORDS else NC_NOERR := by
  unfold checkEINVALCOORDS BadCoord
  cases strict
  · simp only [Bool.false_eq_true, if_false, ite_ite_same, or_assoc]
  · simp only [if_true]

theorem checkEEDGE_eq (s c : Int) (str : Option Int) (sh : Int) :
    checkEEDGE exact s c str sh = if EdgeViol s c str sh then NC_EEDGE else NC_NOERR := by
  unfold checkEEDGE EdgeViol exact
  cases str
  · simp only [decide_eq_true_eq, ite_ite_same, or_self, or_false]
  · simp only [decide_eq_true_eq, ite_ite_same, or_assoc, ← Int.sub_eq_add_neg]

theorem coordBadDim_true (c : Ctx) (r : Req) (d : D) :
    CoordBadDim c r (true, d) ↔ BadCoord c.strict d.start (effCount r d) d.shape :=
  ⟨fun h => h.elim Or.inl And.right, fun h => Or.inr ⟨rfl, h⟩⟩

theorem coordLoop_eq (c : Ctx) (r : Req) (l : List D) :
    coordLoop c.strict r.hasCount l =
      if ∃ d ∈ l, CoordBadDim c r (true, d) then NC_EINVALCOORDS else NC_NOERR := by
  induction l with
  | nil => simp [coordLoop]
  | cons d ds ih =>
    rw [coordLoop]
    simp only [checkEINVALCOORDS_eq, ite_ne_noerr einvalcoords_ne, ite_noerr_ne, ih, ite_ite_same,
      exists_mem_cons_iff, coordBadDim_true]
    rfl

/-- the edge loop in uniform form over (bounded, dim) pairs -/
def edgeU (r : Req) : List (Bool × D) → Int
  | [] => NC_NOERR
  | p :: ps =>
    if NegCount p then NC_ENEGATIVECNT
    else if EdgeBadDim r p then NC_EEDGE
    else edgeU r ps

theorem edgeLoop_eq (r : Req) (l : List D) (hs : ∀ d ∈ l, 0 ≤ d.shape) :
    edgeLoop exact r.hasStride l = edgeU r (l.map (fun d => (true, d))) := by
  induction l with
  | nil => rfl
  | cons d ds ih =>
    rw [edgeLoop, if_neg (Int.not_lt.mpr (hs d List.mem_cons_self)), List.map_cons, edgeU]
    simp only [checkEEDGE_eq, ite_ne_noerr eedge_ne, ite_noerr_ne,
      ih (fun x hx => hs x (List.mem_cons_of_mem _ hx)), NegCount, EdgeBadDim, strideOpt, true_and]

theorem strideLoop_eq (l : List D) :
    strideLoop l = if ∃ d ∈ l, d.stride ≤ 0 then NC_ESTRIDE else NC_NOERR := by
  induction l with
  | nil => simp [strideLoop]
  | cons d ds ih => rw [strideLoop, ih]; simp only [ite_ite_same, exists_mem_cons_iff]

/-- check_start_count_stride over exact integers, in uniform (phase) form -/
def scsU (c : Ctx) (r : Req) : Int :=
  if CoordBad c r then NC_EINVALCOORDS
  else if r.hasCount = false then (if c.needCount then NC_EEDGE else NC_NOERR)
  else
    let e := edgeU r (bdims c r)
    if e ≠ NC_NOERR then e
    else if r.hasStride = true ∧ ∃ d ∈ r.dims, d.stride ≤ 0 then NC_ESTRIDE else NC_NOERR

theorem bdims_snd (c : Ctx) (r : Req) : (bdims c r).map Prod.snd = r.dims := by
  unfold bdims
  cases r.dims with
  | nil => rfl
  | cons d0 rest => simp [List.map_map, Function.comp_def]

theorem mem_dims_iff (c : Ctx) (r : Req) (d : D) : d ∈ r.dims ↔ ∃ b, (b, d) ∈ bdims c r := by
  rw [← bdims_snd c r]
  simp

theorem forall_bdims (c : Ctx) (r : Req) (P : D → Prop) :
    (∀ p ∈ bdims c r, P p.2) ↔ ∀ d ∈ r.dims, P d := by
  rw [← bdims_snd c r, List.forall_mem_map]

theorem bdims_cons (c : Ctx) (r : Req) (d0 : D) (rest : List D) (hd : r.dims = d0 :: rest) :
    bdims c r = ((if c.isRec then c.isRead else true), d0) :: rest.map (fun d => (true, d)) := by
  unfold bdims; rw [hd]

theorem bdims_fixed (c : Ctx) (r : Req) (hrec : c.isRec = false) :
    bdims c r = r.dims.map fun d => (true, d) := by
  unfold bdims; cases r.dims <;> simp [hrec]

theorem exists_bdims (c : Ctx) (r : Req) (b : Bool) (d0 : D) (rest : List D) :
    (∃ p, p ∈ (b, d0) :: rest.map (fun d => ((true : Bool), d)) ∧ CoordBadDim c r p) ↔
      CoordBadDim c r (b, d0) ∨ ∃ d, d ∈ rest ∧ CoordBadDim c r (true, d) := by
  rw [exists_mem_cons_iff]
  exact or_congr Iff.rfl
    ⟨fun ⟨_, hp, h⟩ => by obtain ⟨a, ha, rfl⟩ := List.mem_map.mp hp; exact ⟨a, ha, h⟩,
     fun ⟨a, ha, h⟩ => ⟨_, List.mem_map.mpr ⟨a, ha, rfl⟩, h⟩⟩

theorem checkSCS_exact_eq (c : Ctx) (r : Req) (hs : ∀ d ∈ r.dims, 0 ≤ d.shape) (hne : r.dims ≠ []) :
    checkSCS exact c r = scsU c r := by
  cases hd : r.dims with
  | nil => exact absurd hd hne
  | cons d0 rest =>
    rw [hd] at hs
    have hsr : ∀ d ∈ rest, 0 ≤ d.shape := fun d h => hs d (List.mem_cons_of_mem _ h)
    unfold checkSCS scsU CoordBad bdims
    simp only [hd]
    cases hrec : c.isRec
    · simp only [Bool.false_eq_true, if_false, ne_eq, not_true_eq_false, coordLoop_eq c r,
        ite_ne_noerr einvalcoords_ne, ite_ite_same, strideLoop_eq,
        Bool.not_eq_true', edgeLoop_eq r _ hs, ite_ite_and, List.map_cons]
      refine ite_congr (propext ?_) (fun _ => rfl) (fun _ => rfl)
      rw [exists_bdims, exists_mem_cons_iff]
      simp only [CoordBadDim, false_and, or_false, or_assoc, or_self_left]
    · -- the extra test of a read, `numrecs == 0 && len > 0`, is a case of the coordinate test
      have hz : d0.shape = 0 ∧ (if r.hasCount = true then d0.count else 1) > 0 →
          BadCoord c.strict d0.start (if r.hasCount = true then d0.count else 1) d0.shape := by
        unfold BadCoord
        cases c.strict <;> simp only [Bool.false_eq_true, if_false, if_true] <;> omega
      simp only [if_true, ne_eq, coordLoop_eq c r, checkEINVALCOORDS_eq, checkEEDGE_eq,
        ite_ne_noerr einvalcoords_ne, ite_ne_noerr eedge_ne, ite_ne_noerr enegativecnt_ne,
        ite_ite_same, ite_ite_and, strideLoop_eq, Bool.not_eq_true', edgeLoop_eq r rest hsr, edgeU,
        NegCount, EdgeBadDim, strideOpt, not_true_eq_false, if_false]
      refine ite_congr (propext ?_) (fun _ => rfl) (fun _ => rfl)
      rw [exists_bdims]
      simp only [CoordBadDim, effCount, true_and, or_assoc, or_iff_right_of_imp hz, List.head?_cons,
        Option.mem_def, Option.some.injEq, exists_eq_left']
      exact or_congr_right (or_congr_right (or_comm.trans or_assoc))

theorem edgeU_ok_iff (r : Req) (l : List (Bool × D)) :
    edgeU r l = NC_NOERR ↔ ∀ p ∈ l, ¬ NegCount p ∧ ¬ EdgeBadDim r p := by
  induction l with
  | nil => simp [edgeU]
  | cons p ps ih =>
    rw [edgeU, ite_eq_noerr_iff enegativecnt_ne, ite_eq_noerr_iff eedge_ne, ih, List.forall_mem_cons,
      and_assoc]

/-- which error the edge phase reports: the left-most offending dimension decides, a negative
    count before an exceeded edge -/
theorem edgeU_err (r : Req) (l : List (Bool × D)) (e : Int) (he : edgeU r l = e) (hne : e ≠ NC_NOERR) :
    ∃ pre p post, l = pre ++ p :: post ∧ (∀ x ∈ pre, ¬ NegCount x ∧ ¬ EdgeBadDim r x) ∧
      ((e = NC_ENEGATIVECNT ∧ NegCount p) ∨ (e = NC_EEDGE ∧ ¬ NegCount p ∧ EdgeBadDim r p)) := by
  induction l with
  | nil => exact absurd he.symm hne
  | cons q qs ih =>
    rw [edgeU] at he
    by_cases h1 : NegCount q
    · rw [if_pos h1] at he
      exact ⟨[], q, qs, rfl, fun _ h => (List.not_mem_nil h).elim, Or.inl ⟨he.symm, h1⟩⟩
    by_cases h2 : EdgeBadDim r q
    · rw [if_neg h1, if_pos h2] at he
      exact ⟨[], q, qs, rfl, fun _ h => (List.not_mem_nil h).elim, Or.inr ⟨he.symm, h1, h2⟩⟩
    rw [if_neg h1, if_neg h2] at he
    obtain ⟨pre, p, post, rfl, hpre, hp⟩ := ih he
    exact ⟨q :: pre, p, post, rfl, List.forall_mem_cons.mpr ⟨⟨h1, h2⟩, hpre⟩, hp⟩

theorem DimOK_iff (strict b : Bool) (s c t sh : Int) :
    DimOK strict b s c t sh ↔
      0 ≤ s ∧ 0 ≤ c ∧ 1 ≤ t ∧ (b = true → ¬ BadCoord strict s c sh ∧ ¬ EdgeViol s c (some t) sh) := by
  unfold DimOK
  refine and_congr_right fun h0 => and_congr_right fun h1 => and_congr_right fun h2 =>
    imp_congr_right fun _ => ?_
  -- stride ≥ 1: the bound on the last coordinate `s + (c-1)·t < sh` gives `s + c ≤ sh`
  have hm : 0 ≤ c - 1 → c - 1 ≤ (c - 1) * t := fun h => mul_ge_self h h2
  cases strict <;> simp only [BadCoord, EdgeViol, Bool.false_eq_true, if_false, if_true] <;> omega

theorem edgeViol_strideOpt (r : Req) (d : D) (s c sh : Int) :
    EdgeViol s c (strideOpt r d) sh ↔ EdgeViol s c (some (effStride r d)) sh := by
  unfold strideOpt effStride
  cases r.hasStride
  · simp only [EdgeViol, Bool.false_eq_true, if_false, Int.mul_one, or_false]; omega
  · rfl

theorem dimOK_iff (c : Ctx) (r : Req) (b : Bool) (d : D) (hc : r.hasCount = true) :
    dimOK c r b d ↔ ¬ CoordBadDim c r (b, d) ∧ ¬ NegCount (b, d) ∧ ¬ EdgeBadDim r (b, d) ∧
      (r.hasStride = true → 0 < d.stride) := by
  have hst : 1 ≤ effStride r d ↔ (r.hasStride = true → 0 < d.stride) := by
    unfold effStride; cases r.hasStride <;> simp; omega
  have hcnt : effCount r d = d.count := if_pos hc
  rw [dimOK, DimOK_iff, hst, CoordBadDim, NegCount, EdgeBadDim, edgeViol_strideOpt, hcnt]
  cases b
  · simp only [Bool.false_eq_true, false_and, or_false, false_imp_iff, not_false_eq_true, and_true,
      true_and, Int.not_lt]
  · simp only [true_and, true_imp_iff, not_or, Int.not_lt]
    constructor
    · rintro ⟨h0, h1, h2, h3, h4⟩; exact ⟨⟨h0, h3⟩, h1, h4, h2⟩
    · rintro ⟨⟨h0, h3⟩, h1, h4, h2⟩; exact ⟨h0, h1, h2, h3, h4⟩

theorem dimOK_iff_nocount (c : Ctx) (r : Req) (b : Bool) (d : D)
    (hc : r.hasCount = false) (hst : r.hasStride = false) :
    dimOK c r b d ↔ ¬ CoordBadDim c r (b, d) := by
  -- var1 (count = stride = 1): `DimOK`'s edge condition and `¬ BadCoord` both say `start < shape`
  unfold dimOK DimOK CoordBadDim BadCoord effCount effStride
  simp only [hc, hst]
  cases b <;> cases c.strict <;> simp <;> omega

theorem scsU_eq_noerr_iff (c : Ctx) (r : Req) :
    scsU c r = NC_NOERR ↔ ¬ CoordBad c r ∧
      if r.hasCount = false then c.needCount = false
      else (∀ p ∈ bdims c r, ¬ NegCount p ∧ ¬ EdgeBadDim r p) ∧
        ¬ (r.hasStride = true ∧ ∃ d ∈ r.dims, d.stride ≤ 0) := by
  unfold scsU
  rw [ite_eq_noerr_iff einvalcoords_ne]
  refine and_congr_right fun _ => ?_
  cases r.hasCount
  · simp only [if_true, ite_eq_noerr_iff eedge_ne, and_true, Bool.not_eq_true]
  · simp only [Bool.true_eq_false, if_false]
    by_cases he : edgeU r (bdims c r) = NC_NOERR
    · simp only [he, ne_eq, not_true_eq_false, if_false, ite_eq_noerr_iff (by decide : NC_ESTRIDE ≠ NC_NOERR),
        and_true, ← edgeU_ok_iff, true_and]
    · simp only [he, ne_eq, not_false_eq_true, if_true, ← edgeU_ok_iff, false_and]

theorem scsU_ok_iff (c : Ctx) (r : Req)
    (hstr : r.hasStride = true → c.needCount = true) :
    scsU c r = NC_NOERR ↔ InBounds c r := by
  have hcb : ¬ CoordBad c r ↔ r.startNull = false ∧ (∀ p ∈ bdims c r, ¬ CoordBadDim c r p) ∧
      (c.isRec = true → c.classic = true → ∀ d0 ∈ r.dims.head?, d0.start ≤ NC_MAX_UINT) := by
    simp only [CoordBad, not_or, not_exists, not_and, Bool.not_eq_true, Int.not_lt]
  have hS : (∀ p ∈ bdims c r, r.hasStride = true → 0 < p.2.stride) ↔
      ¬ (r.hasStride = true ∧ ∃ d ∈ r.dims, d.stride ≤ 0) := by
    rw [forall_bdims c r (fun d => r.hasStride = true → 0 < d.stride)]
    exact ⟨fun h ⟨hs, d, hd, hle⟩ => absurd (h d hd hs) (Int.not_lt.mpr hle),
      fun h d hd hs => Int.not_le.mp fun hle => h ⟨hs, d, hd, hle⟩⟩
  rw [scsU_eq_noerr_iff, hcb, InBounds]
  cases hc : r.hasCount
  · cases hn : c.needCount
    · have hst : r.hasStride = false := by
        cases h : r.hasStride
        · rfl
        · exact absurd (hstr h) (by simp [hn])
      simp only [dimOK_iff_nocount c r _ _ hc hst, if_true, and_true, true_and,
        Bool.false_eq_true, false_imp_iff]
    · simp only [if_true, Bool.true_eq_false, and_false, true_imp_iff, Bool.false_eq_true, false_and]
  · simp only [dimOK_iff c r _ _ hc, imp_and, forall_and, hS]
    simp only [Bool.true_eq_false, if_false, implies_true, true_and]
    exact ⟨fun ⟨⟨a, b, c⟩, ⟨d, e⟩, f⟩ => ⟨a, ⟨b, d, e, f⟩, c⟩,
      fun ⟨a, ⟨b, d, e, f⟩, c⟩ => ⟨⟨a, b, c⟩, ⟨d, e⟩, f⟩⟩

theorem edgeLoop_congr (A B : Arith) (hst : Bool) : ∀ (l : List D),
    (∀ d ∈ l, checkEEDGE A d.start d.count (if hst then some d.stride else none) d.shape =
      checkEEDGE B d.start d.count (if hst then some d.stride else none) d.shape) →
    edgeLoop A hst l = edgeLoop B hst l
  | [], _ => rfl
  | d :: ds, h => by
    unfold edgeLoop
    rw [h d List.mem_cons_self, edgeLoop_congr A B hst ds (fun x hx => h x (List.mem_cons_of_mem _ hx))]

theorem coordLoop_start_nonneg (c : Ctx) (r : Req) (l : List D)
    (h : coordLoop c.strict r.hasCount l = NC_NOERR) : ∀ d ∈ l, 0 ≤ d.start := by
  intro d hd
  refine Int.not_lt.mp fun hlt => ?_
  rw [coordLoop_eq, if_pos ⟨d, hd, Or.inl hlt⟩] at h
  exact absurd h (by decide)

/-- `0 ≤ d.start` may be assumed: check_EEDGE is only reached after the coordinate tests -/
theorem checkSCS_congr (A B : Arith) (c : Ctx) (r : Req)
    (h : ∀ d ∈ r.dims, 0 ≤ d.start →
      checkEEDGE A d.start d.count (if r.hasStride then some d.stride else none) d.shape =
      checkEEDGE B d.start d.count (if r.hasStride then some d.stride else none) d.shape) :
    checkSCS A c r = checkSCS B c r := by
  unfold checkSCS
  cases hd : r.dims with
  | nil => rfl
  | cons d0 rest =>
    rw [hd] at h
    simp only
    by_cases h0 : r.startNull = true ∨ d0.start < 0
    · rw [if_pos h0, if_pos h0]
    rw [if_neg h0, if_neg h0, h d0 List.mem_cons_self (Int.not_lt.mp fun hlt => h0 (Or.inr hlt))]
    refine ite_congr rfl (fun _ => rfl) fun _ => ite_congr rfl (fun _ => rfl) fun he2 => ?_
    have hnn := coordLoop_start_nonneg c r _ (Classical.not_not.mp he2)
    have hsub : ∀ d ∈ (if c.isRec = true then rest else d0 :: rest), d ∈ d0 :: rest := by
      intro d hd; split at hd
      · exact List.mem_cons_of_mem _ hd
      · exact hd
    rw [edgeLoop_congr A B r.hasStride _ (fun d hd => h d (hsub d hd) (hnn d hd))]

theorem wrap64_of_fits {x : Int} (h : fits64 x) : wrap64 x = x := by
  unfold fits64 at h; unfold wrap64; omega

/-- the four quantities check_EEDGE computes for one dimension stay inside int64 -/
def NoOvfDim (d : D) : Prop :=
  fits64 (d.start + d.count) ∧ fits64 (d.count - 1) ∧ fits64 ((d.count - 1) * d.stride) ∧
  fits64 (d.start + (d.count - 1) * d.stride)

def NoOvf (r : Req) : Prop := ∀ d ∈ r.dims, NoOvfDim d

theorem checkEEDGE_c64 (d : D) (hst : Bool) (h : NoOvfDim d) :
    checkEEDGE c64 d.start d.count (if hst then some d.stride else none) d.shape =
    checkEEDGE exact d.start d.count (if hst then some d.stride else none) d.shape := by
  obtain ⟨h1, h2, h3, h4⟩ := h
  cases hst <;> simp only [checkEEDGE, c64, exact, ← Int.sub_eq_add_neg, if_true, Bool.false_eq_true, if_false,
    decide_eq_true_eq, wrap64_of_fits h1,
    wrap64_of_fits h2, wrap64_of_fits h3, wrap64_of_fits h4]

theorem checkSCS_c64 (c : Ctx) (r : Req) (h : NoOvf r) : checkSCS c64 c r = checkSCS exact c r :=
  checkSCS_congr c64 exact c r fun d hd _ => checkEEDGE_c64 d r.hasStride (h d hd)

theorem edgeS_div (s c t sh : Int) (h0 : ¬ c > sh - s) :
    divForm.edgeS s c t sh = exact.edgeS s c t sh := by
  unfold divForm exact
  simp only [decide_eq_decide, ← Int.sub_eq_add_neg]
  -- `t > (sh-1-s)/(c-1)` says `(c-1)·t > sh-1-s`; a non-positive stride cannot reach the extent
  have hq : 0 < c - 1 → ((sh - 1 - s) / (c - 1) < t ↔ sh - 1 - s < t * (c - 1)) :=
    fun h => Int.ediv_lt_iff_lt_mul h
  have hm : t * (c - 1) = (c - 1) * t := Int.mul_comm _ _
  have hn : 0 ≤ c - 1 → t ≤ 0 → (c - 1) * t ≤ 0 := Int.mul_nonpos_of_nonneg_of_nonpos
  have h1 : c = 1 → (c - 1) * t = 0 := fun h => by rw [h, Int.sub_self, Int.zero_mul]
  omega

theorem checkEEDGE_div (s c : Int) (str : Option Int) (sh : Int) (hs : 0 ≤ s) :
    checkEEDGE divForm s c str sh = checkEEDGE exact s c str sh := by
  have h0 : divForm.edge0 s c sh = exact.edge0 s c sh := by
    unfold divForm exact; simp only [decide_eq_decide]; omega
  unfold checkEEDGE
  rw [h0]
  refine ite_congr rfl (fun _ => rfl) fun he => ?_
  cases str with
  | none => rfl
  | some t =>
    have : ¬ c > sh - s := fun h => he (by unfold exact; simp only [decide_eq_true_eq]; omega)
    simp only [edgeS_div s c t sh this]

/-- the repaired checker is the checker over exact integers: no envelope needed -/
theorem checkSCS_div (c : Ctx) (r : Req) : checkSCS divForm c r = checkSCS exact c r :=
  checkSCS_congr divForm exact c r fun d _ hs => checkEEDGE_div d.start d.count _ d.shape hs

/-- in the repaired code the strided test is only reached with a non-negative dividend (so C's
    truncating division and the floor division of the model agree) and every intermediate value
    is representable: nothing can overflow -/
theorem divForm_no_overflow (s c sh : Int) (hs : 0 ≤ s) (hsh : fits64 sh) (hc : fits64 c)
    (h0 : ¬ c > sh - s) (hc1 : c > 1) :
    0 ≤ sh - 1 - s ∧ fits64 (sh - s) ∧ fits64 (sh - 1 - s) ∧ fits64 (c - 1) ∧ 0 < c - 1 := by
  unfold fits64 at *; omega

/-- coordinate vector `is` lies inside the extents `ss` -/
def Below : List Nat → List Nat → Prop
  | [], [] => True
  | s :: ss, i :: is => i < s ∧ Below ss is
  | _, _ => False

theorem rowMajor_lt : ∀ (ss is : List Nat), Below ss is → rowMajor ss is < prodl ss
  | [], [], _ => Nat.one_pos
  | [], _ :: _, h => h.elim
  | _ :: _, [], h => h.elim
  | s :: ss, i :: is, ⟨h1, h2⟩ =>
    calc i * prodl ss + rowMajor ss is < i * prodl ss + prodl ss :=
          Nat.add_lt_add_left (rowMajor_lt ss is h2) _
      _ = (i + 1) * prodl ss := (Nat.succ_mul _ _).symm
      _ ≤ s * prodl ss := Nat.mul_le_mul_right _ h1

theorem elem_end_le (ss is : List Nat) (h : Below ss is) (xsz : Nat) :
    rowMajor ss is * xsz + xsz ≤ prodl ss * xsz :=
  Nat.succ_mul _ _ ▸ Nat.mul_le_mul_right xsz (rowMajor_lt ss is h)

theorem mem_cart_cons (l : List Int) (ls : List (List Int)) (t : List Int) :
    t ∈ cart (l :: ls) ↔ ∃ x ∈ l, ∃ t' ∈ cart ls, t = x :: t' := by
  simp only [cart, List.mem_flatMap, List.mem_map, eq_comm]

theorem mem_dimIdx (start cnt str x : Int) :
    x ∈ dimIdx start cnt str ↔ ∃ k : Nat, (k : Int) < cnt ∧ x = start + (k : Int) * str := by
  unfold dimIdx
  simp only [List.mem_map, List.mem_range]
  constructor
  · rintro ⟨k, hk, rfl⟩; exact ⟨k, by omega, rfl⟩
  · rintro ⟨k, hk, rfl⟩; exact ⟨k, by omega, rfl⟩

theorem coord_ok_of_dimOK (c : Ctx) (r : Req) (b : Bool) (d : D) (h : dimOK c r b d) (x : Int)
    (hx : x ∈ dimIdx d.start (effCount r d) (effStride r d)) : 0 ≤ x ∧ (b = true → x < d.shape) := by
  obtain ⟨k, hk, rfl⟩ := (mem_dimIdx _ _ _ _).mp hx
  obtain ⟨h0, h1, h2, h3⟩ := h
  have hks : 0 ≤ (k : Int) * effStride r d := Int.mul_nonneg (Int.natCast_nonneg k) (by omega)
  have hle : (k : Int) * effStride r d ≤ (effCount r d - 1) * effStride r d :=
    Int.mul_le_mul_of_nonneg_right (by omega) (by omega)
  exact ⟨by omega, fun hb => by have := (h3 hb).2 (by omega); omega⟩

theorem cart_below (c : Ctx) (r : Req) : ∀ (ds : List D) (ix : List Int),
    (∀ d ∈ ds, dimOK c r true d) →
    ix ∈ cart (ds.map fun d => dimIdx d.start (effCount r d) (effStride r d)) →
    Below (ds.map fun d => d.shape.toNat) (ix.map Int.toNat)
  | [], ix, _, h => by cases List.mem_singleton.mp h; trivial
  | d :: ds, ix, hd, h => by
    obtain ⟨x, hx, t, ht, rfl⟩ := (mem_cart_cons _ _ _).mp h
    obtain ⟨h0, h1⟩ := coord_ok_of_dimOK c r true d (hd d List.mem_cons_self) x hx
    have hlt : x.toNat < d.shape.toNat := by have := h1 rfl; omega
    exact ⟨hlt, cart_below c r ds t (fun q hq => hd q (List.mem_cons_of_mem _ hq)) ht⟩

/-- C15, fixed-size variable: every element an accepted request addresses lies inside the
    variable's own data area -/
theorem inside_fixed (c : Ctx) (r : Req) (v : VarLayout)
    (hrec : c.isRec = false) (hv : v.isRec = false)
    (hshape : v.shape = r.dims.map (fun d => d.shape.toNat)) (hin : InBounds c r) :
    ∀ off ∈ footprint v r, v.begin ≤ off ∧ off + v.xsz ≤ v.begin + prodl v.shape * v.xsz := by
  intro off hoff
  obtain ⟨ix, hix, rfl⟩ := List.mem_map.mp hoff
  have hok : ∀ d ∈ r.dims, dimOK c r true d := by
    have h := hin.2.2.1
    rwa [bdims_fixed c r hrec, List.forall_mem_map] at h
  have hb := cart_below c r _ ix hok hix
  rw [← hshape] at hb
  have := elem_end_le _ _ hb v.xsz
  simp only [elemOffset, hv, Bool.false_eq_true, if_false]
  omega

/-- C15, record variable: every element an accepted request addresses lies inside the variable's
    slot of some record; for a read that record exists -/
theorem inside_record (c : Ctx) (r : Req) (v : VarLayout)
    (hrec : c.isRec = true) (hv : v.isRec = true)
    (hshape : v.shape = r.dims.map (fun d => d.shape.toNat)) (hin : InBounds c r) :
    ∀ off ∈ footprint v r, ∃ rec : Nat,
      v.begin + rec * v.recsize ≤ off ∧
      off + v.xsz ≤ v.begin + rec * v.recsize + prodl v.shape.tail * v.xsz ∧
      (c.isRead = true → ∀ d0 ∈ r.dims.head?, (rec : Int) < d0.shape) := by
  intro off hoff
  obtain ⟨ix, hix, rfl⟩ := List.mem_map.mp hoff
  have hok := hin.2.2.1
  unfold indices at hix
  cases hd : r.dims with
  | nil =>
    rw [hd] at hix hshape
    cases List.mem_singleton.mp hix
    exact ⟨0, by simp [elemOffset, hv, hshape, prodl]⟩
  | cons d0 rest =>
    rw [hd, List.map_cons] at hix hshape
    rw [bdims_cons c r d0 rest hd, hrec, List.forall_mem_cons, List.forall_mem_map] at hok
    obtain ⟨x0, hx0, xs, hxs, rfl⟩ := (mem_cart_cons _ _ _).mp hix
    obtain ⟨h0, h1⟩ := coord_ok_of_dimOK c r _ d0 hok.1 x0 hx0
    have := elem_end_le _ _ (cart_below c r rest xs hok.2 hxs) v.xsz
    refine ⟨x0.toNat, ?_⟩
    simp only [elemOffset, hv, if_true, hshape, List.map_cons, List.tail_cons]
    refine ⟨by omega, by omega, fun hr d hdm => ?_⟩
    cases hdm
    have := h1 hr
    omega

theorem dimIdx_empty (start cnt str : Int) (h : cnt ≤ 0) : dimIdx start cnt str = [] := by
  unfold dimIdx
  have : cnt.toNat = 0 := by omega
  rw [this]; rfl

theorem cart_empty : ∀ (ls : List (List Int)), [] ∈ ls → cart ls = []
  | [], h => by simp at h
  | l :: ls, h => by
    rcases List.mem_cons.mp h with h | h
    · subst h; simp [cart]
    · simp [cart, cart_empty ls h]

theorem indices_empty (r : Req) (h : ∃ d ∈ r.dims, effCount r d ≤ 0) : indices r = [] := by
  obtain ⟨d, hd, hle⟩ := h
  unfold indices
  apply cart_empty
  exact List.mem_map.mpr ⟨d, hd, dimIdx_empty _ _ _ hle⟩

theorem writeAll_outside (xsz : Nat) : ∀ (offs : List Nat) (f : File) (data : Nat → Nat → Nat) (k p : Nat),
    (∀ off ∈ offs, p < off ∨ off + xsz ≤ p) → writeAll xsz f offs data k p = f p
  | [], _, _, _, _, _ => rfl
  | off :: offs, f, data, k, p, h => by
    rw [writeAll, writeAll_outside xsz offs _ data (k + 1) p (fun o ho => h o (List.mem_cons_of_mem _ ho)),
      writeElem, if_neg (by have := h off List.mem_cons_self; omega)]

end PnVerif.Scs
