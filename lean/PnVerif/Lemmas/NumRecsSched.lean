import PnVerif.Lemmas.NumRecs
/-
  The calls a single rank executes on its own (independent put, posting a nonblocking request, independent wait)
  all have the shape `localApply`.  Calls of this shape by different ranks commute, so the state a history
  reaches does not depend on how the ranks' local calls interleave between two collectives.
-/
namespace PnVerif.NumRecs

/-- a call executed by rank `rk` alone: it rewrites that rank with `g` and (ghost) completes writes ending at `en` -/
def localApply (rk : Nat) (g : Rank → Rank) (en : Rank → List Nat) (w : World) : World :=
  { w with hi := maxOver w.hi ((w.ranks.filter fun r => r.id == rk).flatMap en),
           ranks := w.ranks.map fun r => if r.id == rk then g r else r }

theorem maxOver_append (b : Nat) (l1 l2 : List Nat) : maxOver (maxOver b l1) l2 = maxOver b (l1 ++ l2) := by
  unfold maxOver; rw [List.foldl_append]

theorem maxOver_comm (b : Nat) (l1 l2 : List Nat) : maxOver (maxOver b l1) l2 = maxOver (maxOver b l2) l1 := by
  rw [maxOver_eq_max (maxOver b l1) l2, maxOver_eq_max b l1, maxOver_eq_max (maxOver b l2) l1, maxOver_eq_max b l2,
    Nat.max_assoc, Nat.max_assoc, Nat.max_comm (maxOver 0 l1)]

theorem filter_map_other (a b : Nat) (hab : a ≠ b) (ga : Rank → Rank) (hga : ∀ r, (ga r).id = r.id) (l : List Rank) :
    (l.map fun r => if r.id == a then ga r else r).filter (fun r => r.id == b) = l.filter (fun r => r.id == b) := by
  induction l with
  | nil => rfl
  | cons x xs ih =>
    rw [List.map_cons, List.filter_cons, List.filter_cons, ih]
    by_cases hxa : x.id = a
    · subst hxa
      simp only [hga, beq_iff_eq, hab, if_true, if_false]
    · simp only [beq_iff_eq, hxa, if_false]

theorem localApply_comm (a b : Nat) (hab : a ≠ b) (ga gb : Rank → Rank) (ea eb : Rank → List Nat)
    (hga : ∀ r, (ga r).id = r.id) (hgb : ∀ r, (gb r).id = r.id) (w : World) :
    localApply b gb eb (localApply a ga ea w) = localApply a ga ea (localApply b gb eb w) := by
  unfold localApply
  simp only
  rw [filter_map_other a b hab ga hga, filter_map_other b a (Ne.symm hab) gb hgb, maxOver_comm,
    List.map_map, List.map_map]
  congr 1
  apply List.map_congr_left
  intro r _
  simp only [Function.comp]
  by_cases hra : r.id = a
  · subst hra
    simp only [hga, beq_iff_eq, hab, if_true, if_false]
  · by_cases hrb : r.id = b
    · subst hrb
      simp only [hgb, beq_iff_eq, hra, if_true, if_false]
    · simp only [beq_iff_eq, hra, hrb, if_false]

theorem localApply_indep (rk : Nat) (g : Rank → Rank) (en : Rank → List Nat) (w : World) :
    (localApply rk g en w).indep = w.indep := rfl

/-- the call as the API offers it: with `guard` it is refused outside independent data mode (NC_ENOTINDEP) -/
def localCall (guard : Bool) (rk : Nat) (g : Rank → Rank) (en : Rank → List Nat) (w : World) : World :=
  if guard && !w.indep then w else localApply rk g en w

theorem localCall_comm (a b : Nat) (hab : a ≠ b) (ca cb : Bool) (ga gb : Rank → Rank) (ea eb : Rank → List Nat)
    (hga : ∀ r, (ga r).id = r.id) (hgb : ∀ r, (gb r).id = r.id) (w : World) :
    localCall cb b gb eb (localCall ca a ga ea w) = localCall ca a ga ea (localCall cb b gb eb w) := by
  -- a refused call is the identity and `localApply` keeps `indep`: only the both-executed case needs `localApply_comm`
  cases hi : w.indep <;> cases ca <;> cases cb <;>
    simp [localCall, hi, localApply_indep, localApply_comm a b hab ga gb ea eb hga hgb w]

def putIndepG (e : Nat) (r : Rank) : Rank :=
  if r.numrecs < e then { r with numrecs := e, dirty := true, own := max r.own e } else { r with own := max r.own e }
def iputG (p : Pend) (r : Rank) : Rank := { r with pending := insertPend r.pending p }
def waitG (scan : Bool) (s : Sel) (r : Rank) : Rank :=
  if badSel r.pending s then r
  else if !(marked r.pending s).isEmpty && decide (r.numrecs < litNew scan r s) then
    { completeReqs r s with numrecs := litNew scan r s, dirty := true }
  else completeReqs r s
def waitE (s : Sel) (r : Rank) : List Nat := if badSel r.pending s then [] else markedRecs r s

theorem putIndepG_id (e : Nat) (r : Rank) : (putIndepG e r).id = r.id := by unfold putIndepG; split <;> rfl
theorem iputG_id (p : Pend) (r : Rank) : (iputG p r).id = r.id := rfl
theorem waitG_id (scan : Bool) (s : Sel) (r : Rank) : (waitG scan s r).id = r.id := by
  unfold waitG; split
  · rfl
  · split <;> rfl

theorem flatMap_filter_if (l : List Rank) (c : Rank → Bool) (f : Rank → List Nat) (p : Rank → Bool) :
    (l.filter fun r => p r && !c r).flatMap f = (l.filter p).flatMap (fun r => if c r then [] else f r) := by
  induction l with
  | nil => rfl
  | cons x xs ih =>
    rw [List.filter_cons, List.filter_cons]
    cases p x <;> cases hc : c x <;> simp [hc, ih]

theorem step_putIndep_eq (fx : Fix) (w : World) (rk e : Nat) :
    step fx w (.putIndep rk e) = some (localCall true rk (putIndepG e) (fun _ => [e]) w) := by
  obtain ⟨ranks, hdr, indep, hi⟩ := w
  cases indep with
  | false => rfl
  | true =>
    show _ = some (localApply _ _ _ _)
    unfold localApply
    rw [← List.map_eq_flatMap]
    rfl

theorem step_iput_eq (fx : Fix) (w : World) (rk id : Nat) (isRec : Bool) (e vb ro : Nat) :
    step fx w (.iput rk id isRec e vb ro) =
      some (localCall false rk (iputG { id := id, isRec := isRec, maxRec := if isRec then e else 0, varBegin := vb, reqOff := ro })
              (fun _ => []) w) := by
  have h : (w.ranks.filter fun r => r.id == rk).flatMap (fun _ => ([] : List Nat)) = [] := by simp
  show _ = some (localApply _ _ _ w)
  unfold localApply
  rw [h]
  rfl

theorem step_wait_eq (fx : Fix) (w : World) (rk : Nat) (s : Sel) :
    step fx w (.wait rk s) = some (localCall true rk (waitG fx.waitScan s) (waitE s) w) := by
  obtain ⟨ranks, hdr, indep, hi⟩ := w
  cases indep with
  | false => rfl
  | true =>
    show stepWait fx.waitScan _ rk s = some (localApply _ _ _ _)
    unfold stepWait localApply
    rw [flatMap_filter_if ranks (fun r => badSel r.pending s) (fun r => markedRecs r s) (fun r => r.id == rk)]
    refine congrArg (fun f => some (World.mk (ranks.map f) hdr true _)) (funext fun r => ?_)
    unfold waitG
    cases r.id == rk <;> cases badSel r.pending s <;> rfl

end PnVerif.NumRecs
