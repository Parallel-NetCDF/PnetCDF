import PnVerif.Lemmas.NumRecsSched
/-
  Every call is made of at most three parts, each of which keeps the invariant: all ranks rise to the maximum of an
  Allreduce and root writes the header field (`raiseAll_inv`, `syncCore_inv`); bookkeeping that leaves the counts alone
  (`inv_map_keep`); one rank updates its own count in independent data mode (`localCall_inv`).
-/
namespace PnVerif.NumRecs

theorem putEnd_raise (f : Nat → PutIn) (M : Nat) (r : Rank) : putEnd f (raiseRank M r) = putEnd f r := by
  unfold putEnd; rw [raiseRank_id]
theorem vardEnd_raise (f : Nat → VardIn) (M : Nat) (r : Rank) : vardEnd f (raiseRank M r) = vardEnd f r := by
  unfold vardEnd; rw [raiseRank_id]

theorem putContrib_of_putEnd (f : Nat → PutIn) (r : Rank) (e : Nat) : putEnd f r = some e → putContrib f r = e := by
  unfold putEnd putContrib; cases f r.id <;> simp
theorem vardContrib_of_vardEnd (guard : Bool) (f : Nat → VardIn) (r : Rank) (e : Nat) :
    vardEnd f r = some e → vardContrib guard f r = e := by
  unfold vardEnd vardContrib; cases f r.id <;> simp

theorem putContrib_cases (f : Nat → PutIn) (r : Rank) :
    putEnd f r = some (putContrib f r) ∨ putContrib f r = r.numrecs := by
  unfold putEnd putContrib; cases f r.id <;> simp
/-- `true`: `getput_vard` looks at the filetype only if data is written -/
theorem vardContrib_cases (f : Nat → VardIn) (r : Rank) :
    vardEnd f r = some (vardContrib true f r) ∨ vardContrib true f r = r.numrecs := by
  unfold vardEnd vardContrib; cases f r.id <;> simp

theorem raiseAll_inv (w : World) (hI : Inv w) (M : Nat) : Keeps w { raiseAll w M with hi := max w.hi M } := by
  obtain ⟨root, hroot, hrmem⟩ := hI.root
  obtain ⟨hlo, hup, hfollow⟩ := raiseAll_hdr_bounds w M root hroot (hI.rootHdr root hroot)
  constructor
  · refine inv_map hI.nonempty (raiseRank M) _ _ _ ?_ ?_ ?_ ?_ ?_
    · intro r hr; rw [raiseRank_own, raiseRank_numrecs]
      exact Nat.le_trans (hI.own r hr) (Nat.le_max_left _ _)
    · intro r hr; rw [raiseRank_numrecs]
      have := hI.le_hi hr; omega
    · obtain ⟨r, hr, h⟩ := hI.exists_hi
      exact ⟨r, hr, by rw [raiseRank_numrecs, h]⟩
    · intro root' h
      cases hroot.symm.trans h
      rw [raiseRank_numrecs]; exact hup
    · intro hc
      obtain ⟨hall, hh⟩ := hI.coll hc
      refine ⟨fun r hr => by rw [raiseRank_numrecs, hall r hr]; exact Nat.le_refl _, ?_⟩
      rw [hfollow (hh.trans (hall root hrmem).symm), hall root hrmem]
      exact Nat.le_refl _
  · refine mono_of_map w _ _ _ (raiseRank M) hlo fun r _ => ⟨(raiseRank_id M r).symm, ?_⟩
    rw [raiseRank_numrecs]; exact Nat.le_max_left _ _

theorem inv_map_keep (w : World) (hI : Inv w) (g : Rank → Rank) (hdr' hi' : Nat) (hhdr : hdr' = w.hdr) (hhi : hi' = w.hi)
    (hnum : ∀ r ∈ w.ranks, (g r).numrecs = r.numrecs) (hgid : ∀ r, (g r).id = r.id)
    (hown : ∀ r ∈ w.ranks, (g r).own ≤ r.numrecs) :
    Keeps w { ranks := w.ranks.map g, hdr := hdr', indep := w.indep, hi := hi' } := by
  subst hhdr hhi
  constructor
  · refine inv_map hI.nonempty g _ _ _ ?_ ?_ ?_ ?_ ?_
    · intro r hr; rw [hnum r hr]; exact hown r hr
    · intro r hr; rw [hnum r hr]; exact hI.le_hi hr
    · obtain ⟨r, hr, h⟩ := hI.exists_hi
      exact ⟨r, hr, (hnum r hr).trans h⟩
    · intro root h; rw [hnum root (List.mem_of_mem_head? h)]; exact hI.rootHdr root h
    · intro hc
      obtain ⟨hall, hh⟩ := hI.coll hc
      exact ⟨fun r hr => Nat.le_of_eq ((hnum r hr).trans (hall r hr)).symm, Nat.le_of_eq hh.symm⟩
  · exact mono_of_map w _ _ _ g (Nat.le_refl _) fun r hr => ⟨(hgid r).symm, Nat.le_of_eq (hnum r hr).symm⟩

theorem raise_map_inv (w : World) (hI : Inv w) (M : Nat) (g : Rank → Rank) (hi' : Nat) (hhi : hi' = max w.hi M)
    (hnum : ∀ r, (g r).numrecs = r.numrecs) (hgid : ∀ r, (g r).id = r.id)
    (hown : ∀ r ∈ w.ranks, (g (raiseRank M r)).own ≤ max r.numrecs M) :
    Keeps w { ranks := (raiseAll w M).ranks.map g, hdr := (raiseAll w M).hdr, indep := w.indep, hi := hi' } := by
  refine (raiseAll_inv w hI M).trans (inv_map_keep _ (raiseAll_inv w hI M).1 g _ _ rfl hhi (fun r _ => hnum r) hgid ?_)
  show ∀ r ∈ (raiseAll w M).ranks, _
  rw [raiseAll_ranks']
  refine List.forall_mem_map.mpr fun r hr => ?_
  rw [raiseRank_numrecs]
  exact hown r hr

/-- `hEq`: the Allreduce found the new ghost count -/
theorem raise_record_inv (w : World) (hI : Inv w) (M : Nat) (en : Rank → Option Nat)
    (hid : ∀ r, en (raiseRank M r) = en r) (hEq : maxOver w.hi (w.ranks.filterMap en) = max w.hi M)
    (hown : ∀ r ∈ w.ranks, ∀ e, en r = some e → e ≤ max r.numrecs M) :
    Keeps w (recordWrites (raiseAll w M) en) := by
  have hfm : (raiseAll w M).ranks.filterMap en = w.ranks.filterMap en := by
    rw [raiseAll_ranks', List.filterMap_map]
    exact congrArg (fun f => List.filterMap f w.ranks) (funext hid)
  refine raise_map_inv w hI M _ _ (hfm ▸ hEq) (fun r => by split <;> rfl) (fun r => by split <;> rfl) fun r hr => ?_
  have := hI.own r hr
  split
  · next e he =>
    show max (raiseRank M r).own e ≤ _
    rw [raiseRank_own]; have := hown r hr e (hid r ▸ he); omega
  · rw [raiseRank_own]; omega

/-- put_varm / getput_vard.  `hgood`: not "some rank on the zero path, some rank not"; `h1`: a completed write is
    contributed, `h2`: no contribution reaches beyond what is written (the premises of `max_allreduce_eq`) -/
theorem collPut_inv (fx : Bool) (w : World) (hI : Inv w) (isErr : Rank → Bool) (c : Rank → Nat) (en : Rank → Option Nat)
    (hgood : w.indep = true ∨ fx = true ∨ w.ranks.all isErr = true ∨ w.ranks.any isErr = false)
    (hid : ∀ M r, en (raiseRank M r) = en r)
    (h1 : ∀ r ∈ w.ranks, ∀ e, en r = some e → c r = e)
    (h2 : w.indep = false → ∀ r ∈ w.ranks, c r ≤ maxOver w.hi (w.ranks.filterMap en)) :
    ∃ w', collPut fx w isErr c en = some w' ∧ Keeps w w' := by
  unfold collPut
  by_cases hc : w.indep = true
  · rw [if_pos hc]; exact ⟨w, rfl, Keeps.refl hI⟩
  by_cases hall : w.ranks.all isErr = true
  · rw [if_neg hc, if_pos hall]; exact ⟨w, rfl, Keeps.refl hI⟩
  have hc' : w.indep = false := Bool.eq_false_iff.mpr hc
  have hnot : ¬ (!fx && w.ranks.any isErr) = true := by
    rcases hgood with h | h | h | h
    · exact absurd h hc
    · rw [h]; exact Bool.false_ne_true
    · exact absurd h hall
    · rw [h, Bool.and_false]; exact Bool.false_ne_true
  rw [if_neg hc, if_neg hall, if_neg hnot]
  have hEq : maxOver w.hi (w.ranks.filterMap en) = max w.hi (maxOver 0 (w.ranks.map c)) := by
    refine (max_allreduce_eq _ _ _ (List.forall_mem_map.mpr (h2 hc')) fun e he => ?_).symm
    obtain ⟨r, hr, hre⟩ := List.mem_filterMap.mp he
    exact ⟨c r, List.mem_map_of_mem hr, Nat.le_of_eq (h1 r hr e hre).symm⟩
  refine ⟨_, rfl, raise_record_inv w hI _ en (hid _) hEq fun r hr e he => ?_⟩
  rw [(hI.coll hc').1 r hr, ← hEq]
  exact le_maxOver_mem (List.mem_filterMap.mpr ⟨r, hr, he⟩)

theorem contrib_le (w : World) (hI : Inv w) (hc : w.indep = false) (c : Rank → Nat) (en : Rank → Option Nat)
    (r : Rank) (hr : r ∈ w.ranks) (h : en r = some (c r) ∨ c r = r.numrecs) :
    c r ≤ maxOver w.hi (w.ranks.filterMap en) := by
  rcases h with h | h
  · exact le_maxOver_mem (List.mem_filterMap.mpr ⟨r, hr, h⟩)
  · rw [h, (hI.coll hc).1 r hr]; exact le_maxOver_base _ _

theorem syncCore_max (w : World) (hI : Inv w) : maxOver 0 (w.ranks.map (·.numrecs)) = w.hi := by
  apply Nat.le_antisymm
  · exact maxOver_le_iff.mpr ⟨Nat.zero_le _, List.forall_mem_map.mpr fun r hr => hI.le_hi hr⟩
  · obtain ⟨r, hr, h⟩ := hI.exists_hi
    rw [← h]
    exact le_maxOver_mem (List.mem_map_of_mem hr)

theorem syncCore_ranks (w : World) :
    (syncCore w).ranks = w.ranks.map (fun r => { r with numrecs := maxOver 0 (w.ranks.map (·.numrecs)), dirty := false }) := rfl
theorem syncCore_hi (w : World) : (syncCore w).hi = w.hi := rfl
theorem syncCore_indep (w : World) : (syncCore w).indep = w.indep := rfl

/-- ncmpio_sync_numrecs marks root dirty first, so root always writes the header field -/
theorem syncCore_hdr (w : World) (root : Rank) (hr : w.ranks.head? = some root) :
    (syncCore w).hdr = max root.numrecs (maxOver 0 (w.ranks.map (·.numrecs))) := by
  obtain ⟨rest, hq⟩ := List.head?_eq_some_iff.mp hr
  unfold syncCore writeNumrecs
  simp only [hq, or_true, if_true]

theorem syncCore_coherent (w : World) (hI : Inv w) :
    (∀ r ∈ (syncCore w).ranks, r.numrecs = w.hi) ∧ (syncCore w).hdr = w.hi := by
  have hM := syncCore_max w hI
  obtain ⟨root, hroot, hrmem⟩ := hI.root
  constructor
  · rw [syncCore_ranks]
    exact List.forall_mem_map.mpr fun _ _ => hM
  · rw [syncCore_hdr w root hroot, hM]
    exact Nat.max_eq_right (hI.le_hi hrmem)

/-- `ind'` = the mode afterwards -/
theorem syncCore_inv (w : World) (hI : Inv w) (ind' : Bool) : Keeps w { syncCore w with indep := ind' } := by
  have hM := syncCore_max w hI
  obtain ⟨hall, hH⟩ := syncCore_coherent w hI
  constructor
  · refine Inv.of_coherent (fun h => hI.nonempty (List.map_eq_nil_iff.mp h)) hall hH ?_
    show ∀ r ∈ (syncCore w).ranks, _
    rw [syncCore_ranks]
    refine List.forall_mem_map.mpr fun r hr => ?_
    show r.own ≤ maxOver 0 _
    rw [hM]; exact Nat.le_trans (hI.own r hr) (hI.le_hi hr)
  · refine mono_of_map w _ _ _ _ ?_ fun r hr => ⟨rfl, ?_⟩
    · rw [hH]; obtain ⟨root, hroot, hrmem⟩ := hI.root
      exact Nat.le_trans (hI.rootHdr root hroot) (hI.le_hi hrmem)
    · show r.numrecs ≤ maxOver 0 _
      rw [hM]; exact hI.le_hi hr

/-- ncmpi_sync / ncmpi_sync_numrecs -/
theorem sync_inv (w : World) (hI : Inv w) : Keeps w (if w.indep then syncCore w else w) := by
  split
  · exact syncCore_inv w hI w.indep
  · exact Keeps.refl hI

theorem endIndepCore_inv (w : World) (hI : Inv w) :
    Keeps w (endIndepCore w) ∧ (endIndepCore w).indep = false ∧ (endIndepCore w).hi = w.hi := by
  unfold endIndepCore
  cases hc : w.indep
  · exact ⟨Keeps.refl hI, hc, rfl⟩
  · exact ⟨syncCore_inv w hI false, rfl, rfl⟩

theorem litNew_ge (scan : Bool) (r : Rank) (s : Sel) : r.numrecs ≤ litNew scan r s := le_maxOver_base _ _

theorem litNew_le (scan : Bool) (r : Rank) (s : Sel) : litNew scan r s ≤ maxOver r.numrecs (markedRecs r s) := by
  refine maxOver_le_iff.mpr ⟨le_maxOver_base _ _, List.forall_mem_map.mpr fun p hp => ?_⟩
  obtain ⟨hp1, hp2⟩ := List.mem_filter.mp hp
  rw [Bool.and_eq_true] at hp2
  exact le_maxOver_mem (List.mem_map_of_mem
    (List.mem_filter.mpr ⟨List.mem_filter.mpr ⟨List.mem_of_mem_take hp1, hp2.1⟩, hp2.2⟩))

/-- with the repaired loop bound req_commit sees every marked request -/
theorem litNew_scan_ge (r : Rank) (s : Sel) : ∀ e ∈ markedRecs r s, e ≤ litNew true r s := by
  refine List.forall_mem_map.mpr fun p hp => ?_
  obtain ⟨hp1, hrec⟩ := List.mem_filter.mp hp
  obtain ⟨hpm, hmk⟩ := List.mem_filter.mp hp1
  unfold litNew
  simp only [if_true, List.take_length]
  exact le_maxOver_mem (List.mem_map_of_mem (List.mem_filter.mpr ⟨hpm, by rw [hmk, hrec]; rfl⟩))

theorem markedRecs_raise (M : Nat) (r : Rank) (s : Sel) : markedRecs (raiseRank M r) s = markedRecs r s := by
  unfold markedRecs marked; rw [raiseRank_pending]

theorem markedRecs_nil_of_marked_nil (r : Rank) (s : Sel) (h : (marked r.pending s).isEmpty = true) : markedRecs r s = [] := by
  unfold markedRecs
  rw [List.isEmpty_iff.mp h]; rfl

theorem completeReqs_numrecs (r : Rank) (s : Sel) : (completeReqs r s).numrecs = r.numrecs := rfl
theorem completeReqs_id (r : Rank) (s : Sel) : (completeReqs r s).id = r.id := rfl
theorem completeReqs_own (r : Rank) (s : Sel) : (completeReqs r s).own = maxOver r.own (markedRecs r s) := rfl

/-- ncmpi_wait_all; `hg`: req_commit's `litNew` covers every marked request -/
theorem waitAll_inv (scan : Bool) (w : World) (hI : Inv w) (sel : Nat → Sel)
    (hg : ∀ r ∈ w.ranks, ∀ e ∈ markedRecs r (sel r.id), e ≤ litNew scan r (sel r.id)) :
    ∃ w', stepWaitAll scan w sel = some w' ∧ Keeps w w' := by
  unfold stepWaitAll
  split
  · exact ⟨w, rfl, Keeps.refl hI⟩
  next hc =>
  split
  · exact ⟨w, rfl, Keeps.refl hI⟩
  refine ⟨_, rfl, ?_⟩
  obtain ⟨hall, _⟩ := hI.coll (Bool.eq_false_iff.mpr hc)
  have hsub : ∀ r ∈ w.ranks, ∀ e ∈ markedRecs r (sel r.id),
      e ≤ maxOver w.hi (w.ranks.flatMap fun r => markedRecs r (sel r.id)) :=
    fun r hr e he => le_maxOver_mem (List.mem_flatMap.mpr ⟨r, hr, he⟩)
  cases hd : w.ranks.any fun r => !(marked r.pending (sel r.id)).isEmpty
  · -- no rank has a marked request: nothing is written and the queues do not change
    have hempty : ∀ r ∈ w.ranks, markedRecs r (sel r.id) = [] := fun r hr =>
      markedRecs_nil_of_marked_nil _ _ (by simpa using List.any_eq_false.mp hd r hr)
    refine inv_map_keep w hI (fun r => completeReqs r (sel r.id)) _ _ rfl ?_ (fun _ _ => rfl) (fun _ => rfl) fun r hr => ?_
    · rw [List.flatMap_eq_nil_iff.mpr hempty]; rfl
    · rw [completeReqs_own, hempty r hr]; exact hI.own r hr
  · refine raise_map_inv w hI _ (fun r => completeReqs r (sel r.id)) _ ?_ (fun _ => rfl) (fun _ => rfl) fun r hr => ?_
    · refine (max_allreduce_eq _ _ _ (List.forall_mem_map.mpr fun r hr => ?_) fun e he => ?_).symm
      · refine Nat.le_trans (litNew_le scan r (sel r.id)) (maxOver_le_iff.mpr ⟨?_, hsub r hr⟩)
        rw [hall r hr]; exact le_maxOver_base _ _
      · obtain ⟨r, hr, her⟩ := List.mem_flatMap.mp he
        exact ⟨_, List.mem_map_of_mem hr, hg r hr e her⟩
    · -- a marked request ends below what req_commit computed for its rank, hence below the Allreduce maximum
      rw [completeReqs_own, raiseRank_own, raiseRank_id, markedRecs_raise]
      refine maxOver_le_iff.mpr ⟨Nat.le_trans (hI.own r hr) (Nat.le_max_left _ _), fun e he => ?_⟩
      exact Nat.le_trans (hg r hr e he) (Nat.le_trans
        (le_maxOver_mem (List.mem_map_of_mem (f := fun r => litNew scan r (sel r.id)) hr)) (Nat.le_max_right _ _))

theorem localCall_inv (w : World) (hI : Inv w) (rk : Nat) (g : Rank → Rank)
    (en : Rank → List Nat) (hgid : ∀ r, (g r).id = r.id)
    (hg : ∀ r ∈ w.ranks, r.id = rk → (g r).numrecs = maxOver r.numrecs (en r) ∧ (g r).own = maxOver r.own (en r)) :
    Keeps w (localCall true rk g en w) := by
  unfold localCall
  cases hc : w.indep
  · exact Keeps.refl hI
  show Keeps w (localApply rk g en w)
  generalize hH : maxOver w.hi ((w.ranks.filter fun r => r.id == rk).flatMap en) = H
  have hbase : w.hi ≤ H := hH ▸ le_maxOver_base _ _
  have hf : ∀ r ∈ w.ranks, r.numrecs ≤ (if r.id == rk then g r else r).numrecs ∧
      (if r.id == rk then g r else r).own ≤ (if r.id == rk then g r else r).numrecs ∧
      (if r.id == rk then g r else r).numrecs ≤ H := by
    intro r hr
    have hle := hI.le_hi hr
    by_cases hid : (r.id == rk) = true
    · obtain ⟨hn, ho⟩ := hg r hr (beq_iff_eq.mp hid)
      rw [if_pos hid, hn, ho]
      refine ⟨le_maxOver_base _ _, maxOver_mono_base _ (hI.own r hr), maxOver_le_iff.mpr ⟨Nat.le_trans hle hbase, fun e he => ?_⟩⟩
      exact hH ▸ le_maxOver_mem (List.mem_flatMap.mpr ⟨r, List.mem_filter.mpr ⟨hr, hid⟩, he⟩)
    · rw [if_neg hid]
      exact ⟨Nat.le_refl _, hI.own r hr, Nat.le_trans hle hbase⟩
  unfold localApply
  rw [hH]
  constructor
  · refine inv_map hI.nonempty _ _ _ _ (fun r hr => (hf r hr).2.1) (fun r hr => (hf r hr).2.2) ?_
      (fun root h => Nat.le_trans (hI.rootHdr root h) (hf root (List.mem_of_mem_head? h)).1)
      (fun h => by rw [hc] at h; cases h)
    -- somebody holds the new ghost count: the old holder if it did not move, else the rank whose write it is
    rcases maxOver_mem_or w.hi ((w.ranks.filter fun r => r.id == rk).flatMap en) with h | h <;> rw [hH] at h
    · obtain ⟨r, hr, hrh⟩ := hI.exists_hi
      exact ⟨r, hr, Nat.le_antisymm (hf r hr).2.2 (by rw [h, ← hrh]; exact (hf r hr).1)⟩
    · obtain ⟨r, hrf, hre⟩ := List.mem_flatMap.mp h
      obtain ⟨hr, hid⟩ := List.mem_filter.mp hrf
      refine ⟨r, hr, Nat.le_antisymm (hf r hr).2.2 ?_⟩
      rw [if_pos hid, (hg r hr (beq_iff_eq.mp hid)).1]
      exact le_maxOver_mem hre
  · refine mono_of_map w _ _ _ _ (Nat.le_refl _) fun r hr => ⟨?_, (hf r hr).1⟩
    split
    · exact (hgid r).symm
    · rfl

theorem putIndepG_numrecs (e : Nat) (r : Rank) : (putIndepG e r).numrecs = maxOver r.numrecs [e] := by
  show _ = max r.numrecs e
  unfold putIndepG; split
  · simp only; omega
  · simp only; omega

theorem putIndepG_own (e : Nat) (r : Rank) : (putIndepG e r).own = maxOver r.own [e] := by
  unfold putIndepG; split <;> rfl

theorem waitG_numrecs (scan : Bool) (s : Sel) (r : Rank) (hg : ∀ e ∈ markedRecs r s, e ≤ litNew scan r s) :
    (waitG scan s r).numrecs = maxOver r.numrecs (waitE s r) := by
  have hle := litNew_le scan r s
  have hlit : maxOver r.numrecs (markedRecs r s) ≤ litNew scan r s := maxOver_le_iff.mpr ⟨litNew_ge scan r s, hg⟩
  unfold waitG waitE
  split
  · rfl
  · split
    · exact Nat.le_antisymm hle hlit
    · next h =>
      -- numrecs stays: either nothing is marked or litNew is not above it
      refine Nat.le_antisymm (le_maxOver_base _ _) ?_
      cases hm : (marked r.pending s).isEmpty
      · rw [hm, Bool.not_false, Bool.true_and, decide_eq_true_eq] at h
        exact Nat.le_trans hlit (Nat.le_of_not_lt h)
      · rw [markedRecs_nil_of_marked_nil r s hm]; exact Nat.le_refl _

theorem waitG_own (scan : Bool) (s : Sel) (r : Rank) : (waitG scan s r).own = maxOver r.own (waitE s r) := by
  unfold waitG waitE
  split
  · rfl
  · split <;> rfl

end PnVerif.NumRecs
