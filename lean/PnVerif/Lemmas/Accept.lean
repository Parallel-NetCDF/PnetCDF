import PnVerif.Lemmas.PostPass
/-
  Acceptance: every schema whose layout the specification allows (`Schema.LayoutValid`) passes the
  post-pass of ncmpio_hdr_get_NC (compute_var_shape, ncmpio_NC_check_vlens, ncmpio_NC_check_voffs).
-/
namespace PnVerif.Header
open PnVerif.Spec PnVerif.Layout

theorem shapeOf_ok (dims : List Dim) : ∀ (ids : List Nat) (i : Nat),
    (∀ id ∈ ids, id < dims.length) →
    (∀ id ∈ (if i = 0 then ids.drop 1 else ids), dimSize dims id ≠ 0) →
    shapeOf dims ids i = .ok (ids.map (dimSize dims)) := by
  intro ids
  induction ids with
  | nil => intro i _ _; rfl
  | cons id ids ih =>
    intro i hr hz
    have hlt := hr id (by simp)
    have hget : dims[id]? = some dims[id] := List.getElem?_eq_getElem hlt
    have hds : dimSize dims id = dims[id].size := by simp [dimSize, hget]
    have hnz : ¬ (dims[id].size = 0 ∧ i ≠ 0) := fun ⟨h0, hi⟩ => hz id (by simp [hi]) (hds.trans h0)
    have htl : ∀ x ∈ (if i + 1 = 0 then ids.drop 1 else ids), dimSize dims x ≠ 0 := by
      intro x hx
      rw [if_neg (Nat.succ_ne_zero i)] at hx
      exact hz x (by split <;> simp [hx])
    simp only [shapeOf, hget, hnz, if_false, ih (i + 1) (fun x hx => hr x (by simp [hx])) htl, List.map_cons, hds]

theorem isRecDim_eq (d : Schema) (id : Nat) (h : id < d.dims.length) :
    d.isRecDim id = (dimSize d.dims id == 0) := by
  simp [Schema.isRecDim, dimSize, List.getElem?_eq_getElem h]

/-- the `refs` clause of `Schema.LayoutValid` for one variable -/
def RefsOk (d : Schema) (v : Var) : Prop :=
  (∀ id ∈ v.dimids, id < d.dims.length) ∧ (∀ id ∈ v.dimids.drop 1, d.isRecDim id = false)

theorem shapeOf_var (d : Schema) (v : Var) (hr : RefsOk d v) :
    shapeOf d.dims v.dimids 0 = .ok (shapeS d v) := by
  apply shapeOf_ok d.dims v.dimids 0 hr.1
  intro id hid
  have := hr.2 id hid
  rw [isRecDim_eq d id (hr.1 id (List.mem_of_mem_drop hid))] at this
  simpa using this

theorem isRecShape_eq (d : Schema) (v : Var) (hr : ∀ id ∈ v.dimids, id < d.dims.length) :
    isRecShape (shapeS d v) = d.isRecVar v := by
  unfold shapeS Schema.isRecVar
  cases hv : v.dimids with
  | nil => rfl
  | cons id ids => simp only [List.map_cons, isRecShape, isRecDim_eq d id (hr id (by simp [hv]))]

theorem foldr_mul_pos (l : List Nat) (h : ∀ x ∈ l, x ≠ 0) : 0 < l.foldr (· * ·) 1 := by
  induction l with
  | nil => exact Nat.one_pos
  | cons a t ih =>
    exact Nat.mul_pos (Nat.pos_of_ne_zero (h a (by simp))) (ih fun x hx => h x (by simp [hx]))

theorem checkVlenLoop_true (M : Nat) : ∀ (l : List Nat) (prod : Nat), 0 < prod → (∀ s ∈ l, s ≠ 0) →
    prod * l.foldr (· * ·) 1 ≤ M → checkVlenLoop M l prod = true := by
  intro l
  induction l with
  | nil => intro prod _ _ _; rfl
  | cons s t ih =>
    intro prod hp hnz hle
    rw [List.foldr_cons, ← Nat.mul_assoc] at hle
    have hs : 0 < s := Nat.pos_of_ne_zero (hnz s (by simp))
    have hnt : ∀ x ∈ t, x ≠ 0 := fun x hx => hnz x (by simp [hx])
    have h1 : prod * s ≤ M := Nat.le_trans (Nat.le_mul_of_pos_right _ (foldr_mul_pos t hnt)) hle
    have h2 : ¬ s > M / prod := Nat.not_lt.mpr ((Nat.le_div_iff_mul_le hp).mpr (Nat.mul_comm prod s ▸ h1))
    simp only [checkVlenLoop, Nat.ne_of_gt hp, h2, if_false]
    exact ih (prod * s) (Nat.mul_pos hp hs) hnt hle

/-- the list ncmpio_NC_check_vlen multiplies: the shape without a leading record dimension -/
theorem vlenList_spec (sh : List Nat) (h : ∀ s ∈ sh.drop 1, s ≠ 0) :
    (∀ s ∈ (if isRecShape sh then sh.drop 1 else sh), s ≠ 0) ∧
    (if isRecShape sh then sh.drop 1 else sh).foldr (· * ·) 1 = (sh.map nz).foldr (· * ·) 1 := by
  cases sh with
  | nil => exact ⟨fun _ hs => (nomatch hs), rfl⟩
  | cons s0 t =>
    simp only [List.drop_succ_cons, List.drop_zero] at h
    by_cases h0 : s0 = 0
    · -- record variable: the list is `t`; the leading 0 is the factor `nz 0 = 1`
      subst h0
      rw [if_pos (show isRecShape (0 :: t) = true from rfl)]
      exact ⟨h, by rw [List.map_cons, List.foldr_cons, map_nz t h]; exact (Nat.one_mul _).symm⟩
    · -- fixed-size variable: the whole shape, without a zero, so `map nz` changes nothing
      have hall : ∀ s ∈ s0 :: t, s ≠ 0 := fun s hs => by
        rcases List.mem_cons.mp hs with rfl | hs
        · exact h0
        · exact h s hs
      rw [if_neg (show ¬ isRecShape (s0 :: t) = true by simp [isRecShape, h0]), map_nz _ hall]
      exact ⟨hall, rfl⟩

theorem checkVlen_small (d : Schema) (v : Var) (M : Nat) (hr : RefsOk d v)
    (hs : d.nelems v * v.xtype.size ≤ M) : checkVlen v.xtype.size (shapeS d v) M = true := by
  obtain ⟨h1, h2⟩ := vlenList_spec (shapeS d v) (shapeOf_nonzero _ _ _ _ (shapeOf_var d v hr)).2
  unfold checkVlen
  apply checkVlenLoop_true M _ _ (size_pos _) h1
  rw [h2, ← nelems_eq, Nat.mul_comm]; exact hs

theorem varShape64_ok (d : Schema) (v : Var) (hr : RefsOk d v)
    (hs : d.nelems v * v.xtype.size ≤ 2147483644) :
    varShape64 d.dims v = .ok (shapeS d v, d.varLen v) := by
  have hc := checkVlen_small d v (NC_MAX_INT64 - 3) hr (by unfold NC_MAX_INT64; omega)
  have h1 : ∃ len, varShape64 d.dims v = .ok (shapeS d v, len) := by
    unfold varShape64
    rw [shapeOf_var d v hr]
    simp only [hc, not_true_eq_false, if_false]
    exact ⟨_, rfl⟩
  obtain ⟨len, h1⟩ := h1
  rw [h1, varShape64_spec d v _ _ h1]

/-- a variable the specification's layout rules allow (`LayoutValid.refs` and `.small` for one variable) -/
def VarValid (d : Schema) (v : Var) : Prop :=
  ((∀ id ∈ v.dimids, id < d.dims.length) ∧ (∀ id ∈ v.dimids.drop 1, d.isRecDim id = false)) ∧
  d.nelems v * v.xtype.size ≤ 2147483644

/-- `CvsState.beginRec` after the loop: the end of the last fixed-size variable, `e` if there is none -/
def lastFixedEnd (d : Schema) : List Var → Nat → Nat
  | [], e => e
  | v :: vs, e => if d.isRecVar v then lastFixedEnd d vs e else lastFixedEnd d vs (v.begin + d.varLen v)

/-- what `first_var` / `first_rec` of compute_var_shape point at -/
def firstOf (d : Schema) (wantRec : Bool) : List Var → Option Var
  | [] => none
  | v :: vs => if d.isRecVar v = wantRec then some v else firstOf d wantRec vs

/-- what `CvsState.firstRec` keeps: begin, len, dsizes[0] * xsz -/
def recInfo (d : Schema) (v : Var) : Nat × Nat × Nat := (v.begin, d.varLen v, dsizes0 (shapeS d v) * v.xtype.size)

theorem cvsLoop_ok (d : Schema) {vs : List Var} (hv : ∀ v ∈ vs, VarValid d v) (st : CvsState) :
    ∃ st', cvsLoop d.dims vs st = .ok st' ∧
      st'.beginRec = lastFixedEnd d vs st.beginRec ∧
      st'.firstVar = st.firstVar.or ((firstOf d false vs).map (·.begin)) ∧
      st'.firstRec = st.firstRec.or ((firstOf d true vs).map (recInfo d)) ∧
      st'.shapes = st.shapes ++ vs.map (shapeS d) ∧
      st'.lens = st.lens ++ vs.map d.varLen := by
  induction vs generalizing st with
  | nil => exact ⟨st, rfl, rfl, by simp [firstOf], by simp [firstOf], by simp, by simp⟩
  | cons v vs ih =>
    have hvv := hv v (by simp)
    have ih' := ih fun x hx => hv x (by simp [hx])
    simp only [cvsLoop, varShape64_ok d v hvv.1 hvv.2, isRecShape_eq d v hvv.1.1]
    cases hr : d.isRecVar v
    · refine (ih' _).imp fun st' ⟨h1, h2, h3, h4, h5, h6⟩ => ⟨h1, ?_, ?_, ?_, ?_, ?_⟩
      · rw [h2]; simp [lastFixedEnd, hr]
      · rw [h3]; cases st.firstVar <;> simp [firstOf, hr]
      · rw [h4]; simp [firstOf, hr]
      · rw [h5]; simp
      · rw [h6]; simp
    · refine (ih' _).imp fun st' ⟨h1, h2, h3, h4, h5, h6⟩ => ⟨h1, ?_, ?_, ?_, ?_, ?_⟩
      · rw [h2]; simp [lastFixedEnd, hr]
      · rw [h3]; simp [firstOf, hr]
      · rw [h4]; cases st.firstRec <;> simp [firstOf, hr, recInfo]
      · rw [h5]; simp
      · rw [h6]; simp

theorem chain_mono (d : Schema) (w : Bool) {vs : List Var} {prev e : Nat}
    (h : d.chainFrom w vs prev = some e) : prev ≤ e := by
  induction vs generalizing prev with
  | nil => cases h; exact Nat.le_refl _
  | cons v vs ih =>
    simp only [Schema.chainFrom] at h
    split at h
    · exact ih h
    · split at h
      · contradiction
      · have := ih h; omega

theorem chain_end (d : Schema) {vs : List Var} {prev e : Nat} (h : d.chainFrom false vs prev = some e) :
    e = lastFixedEnd d vs prev := by
  induction vs generalizing prev with
  | nil => cases h; rfl
  | cons v vs ih =>
    simp only [Schema.chainFrom] at h
    cases hr : d.isRecVar v with
    | true =>
      simp only [hr, Bool.true_bne, Bool.not_false, if_true] at h
      simpa [lastFixedEnd, hr] using ih h
    | false =>
      simp only [hr, bne_self_eq_false, Bool.false_eq_true, if_false] at h
      split at h
      · contradiction
      · simpa [lastFixedEnd, hr] using ih h

theorem firstOf_none_all (d : Schema) (w : Bool) : ∀ (vs : List Var), firstOf d w vs = none → ∀ v ∈ vs, d.isRecVar v = !w := by
  intro vs
  induction vs with
  | nil => intro _ v hv; cases hv
  | cons a t ih =>
    intro h v hv
    simp only [firstOf] at h
    split at h
    · contradiction
    · rename_i hne
      rcases List.mem_cons.mp hv with rfl | hv'
      · cases w <;> cases hx : d.isRecVar v <;> simp_all
      · exact ih h v hv'

/-- compute_var_shape's `first_rec ? first_rec->begin : begin_rec` and
    `first_var ? first_var->begin : begin_rec`: `x` is the value taken when there is no such variable -/
def firstBegin (d : Schema) (w : Bool) (vs : List Var) (x : Nat) : Nat :=
  ((firstOf d w vs).map (·.begin)).getD x

/-- `x` is the default of `firstBegin`.  The begin compute_var_shape reports lies between the start of
    the chain and `x`, and ncmpio_NC_check_voffs, which restarts the chain there, finds the same end
    (`x` itself when there is no member). -/
theorem chain_first (d : Schema) (w : Bool) {vs : List Var} {prev e : Nat} (x : Nat)
    (h : d.chainFrom w vs prev = some e) :
    (prev ≤ x → prev ≤ firstBegin d w vs x) ∧ (e ≤ x → firstBegin d w vs x ≤ x) ∧
    d.chainFrom w vs (firstBegin d w vs x) = some (if (firstOf d w vs).isSome then e else x) := by
  induction vs generalizing prev with
  | nil => cases h; exact ⟨id, fun _ => Nat.le_refl x, rfl⟩
  | cons v vs ih =>
    simp only [Schema.chainFrom] at h ⊢
    by_cases hq : d.isRecVar v = w
    · simp only [hq, bne_self_eq_false, Bool.false_eq_true, if_false] at h ⊢
      simp only [firstBegin, firstOf, hq, if_true, Option.map_some, Option.getD_some, Option.isSome_some]
      split at h
      · contradiction
      · have := chain_mono d w h
        exact ⟨fun _ => by omega, fun _ => by omega, by simp only [Nat.lt_irrefl, if_false]; exact h⟩
    · have hb : (d.isRecVar v != w) = true := by simp [hq]
      simp only [hb, if_true] at h ⊢
      simpa only [firstBegin, firstOf, hq, if_false] using ih h

/-- one pass of ncmpio_NC_check_voffs is the specification's chain test -/
theorem voffsPass_chain (d : Schema) (w : Bool) (vs : List Var) (prev : Nat) :
    voffsPass w (vs.map (fun v => (d.isRecVar v, v.begin, d.varLen v))) prev =
      (match d.chainFrom w vs prev with | some e => .ok e | none => .error .enotnc) := by
  induction vs generalizing prev with
  | nil => rfl
  | cons v vs ih =>
    simp only [List.map_cons, voffsPass, Schema.chainFrom]
    by_cases hq : d.isRecVar v = w
    · simp only [hq, bne_self_eq_false, ne_eq, not_true_eq_false, Bool.false_eq_true, if_false]
      split
      · rfl
      · exact ih _
    · have hb : (d.isRecVar v != w) = true := by simp [hq]
      simp only [hb, hq, ne_eq, not_false_eq_true, if_true]
      exact ih _

theorem vlensPass_none (ver M : Nat) (w : Bool) (L : List (Nat × List Nat)) (last : Bool)
    (h : ∀ p ∈ L, checkVlen p.1 p.2 M = true) : ∃ l, vlensPass ver M w L 0 last = .ok (0, l) := by
  induction L generalizing last with
  | nil => exact ⟨last, rfl⟩
  | cons p t ih =>
    have ht : ∀ q ∈ t, checkVlen q.1 q.2 M = true := fun q hq => h q (by simp [hq])
    simp only [vlensPass]
    split
    · exact ih last ht
    · simp only [h p (by simp), not_true_eq_false, if_false]
      exact ih false ht

/-- vlen_max of ncmpio_NC_check_vlens, by format -/
theorem vlenMax_ge (ver : Nat) :
    2147483644 ≤ (if ver ≥ 5 then NC_MAX_INT64 - 3 else if ver = 2 then NC_MAX_UINT - 3 else NC_MAX_INT - 3) := by
  split
  · decide
  · split <;> decide

/-- vlen_max is a `let` inside `checkVlens`: asking for every `M` above the limit common to the three
    formats keeps it out of the statement -/
theorem checkVlens_small (ver : Nat) (L : List (Nat × List Nat))
    (h : ∀ M, 2147483644 ≤ M → ∀ p ∈ L, checkVlen p.1 p.2 M = true) : checkVlens ver L = .ok () := by
  obtain ⟨l1, h1⟩ := vlensPass_none ver _ false L false (h _ (vlenMax_ge ver))
  obtain ⟨l2, h2⟩ := vlensPass_none ver _ true L false (h _ (vlenMax_ge ver))
  -- `delta`, not `unfold`: the equation and splitter lemmas of the nested matches are dear to generate
  delta checkVlens
  dsimp only
  rw [h1, h2]
  simp only [gt_iff_lt, Nat.not_lt_zero, Nat.zero_ne_one, false_and, if_false, ite_self]

theorem checkVlens_ok (d : Schema) (hv : ∀ v ∈ d.vars, VarValid d v) :
    checkVlens d.fmt.version ((d.vars.map (fun v => v.xtype.size)).zip (d.vars.map (shapeS d))) = .ok () := by
  apply checkVlens_small
  intro M hM p hp
  rw [List.zip_map'] at hp
  obtain ⟨v, hvm, rfl⟩ := List.mem_map.mp hp
  exact checkVlen_small d v M (hv v hvm).1 (Nat.le_trans (hv v hvm).2 hM)

theorem zip3_map (d : Schema) (vs : List Var) (hr : ∀ v ∈ vs, ∀ id ∈ v.dimids, id < d.dims.length) :
    ((vs.map (shapeS d)).map isRecShape).zip ((vs.map (fun v => v.begin)).zip (vs.map d.varLen)) =
      vs.map (fun v => (d.isRecVar v, v.begin, d.varLen v)) := by
  induction vs with
  | nil => rfl
  | cons v t ih =>
    simp only [List.map_cons, List.zip_cons_cons]
    rw [ih (fun x hx => hr x (by simp [hx])), isRecShape_eq d v (hr v (by simp))]

/-- Every schema whose layout the specification allows is accepted by the post-pass of
    ncmpio_hdr_get_NC: compute_var_shape, ncmpio_NC_check_vlens and ncmpio_NC_check_voffs all succeed. -/
theorem postPass_ok (d : Schema) (hv : d.LayoutValid (Hdr.len d)) : ∃ info, postPass d = .ok info := by
  obtain ⟨hrefs, hsmall, e, hf, e', hr⟩ := hv
  have hvalid : ∀ v ∈ d.vars, VarValid d v := fun v hm => ⟨hrefs v hm, hsmall v hm⟩
  by_cases hnil : d.vars = []
  · -- no variable: nothing is checked
    unfold postPass computeVarShape
    simp [hnil, checkVlens, checkVoffs]
  · have hlen : ¬ d.vars.length = 0 := fun h0 => hnil (List.eq_nil_of_length_eq_zero h0)
    obtain ⟨st, hst, s1, s3, s4, s5, s6⟩ := cvsLoop_ok d hvalid ⟨Hdr.len d, 0, none, none, [], []⟩
    simp only [List.nil_append, Option.none_or] at s3 s4 s5 s6
    have c1 := chain_end d hf
    have cm := chain_mono d false hf
    have hpos : 0 < Hdr.len d := by unfold Hdr.len; simp only []; omega
    -- `br`, `bv`: begin_rec, begin_var as compute_var_shape sets them (equations kept for cvsRec, cvsFinish)
    obtain ⟨hbr, -, hrec'⟩ := chain_first d true e hr
    generalize hbrdef : firstBegin d true d.vars e = br at hbr hrec'
    obtain ⟨hbv1, hbv2, hfix⟩ := chain_first d false br hf
    generalize hbvdef : firstBegin d false d.vars br = bv at hbv1 hbv2 hfix
    have hbr := hbr (Nat.le_refl e)
    have hbv : Hdr.len d ≤ bv ∧ bv ≤ br := ⟨hbv1 (by omega), hbv2 hbr⟩
    have hrec : ∃ rs, cvsRec st = .ok (br, rs) := by
      unfold cvsRec
      rw [s4, s1, ← c1, ← hbrdef, firstBegin]
      cases hfr : firstOf d true d.vars with
      | none => exact ⟨_, rfl⟩
      | some r =>
        have : ¬ e > r.begin := by rw [← hbrdef, firstBegin, hfr] at hbr; exact Nat.not_lt.mpr hbr
        simp [recInfo, this]
    obtain ⟨rs, hrec⟩ := hrec
    have hcvs : computeVarShape d (Hdr.len d) = .ok (bv, br, rs, d.vars.map (shapeS d), d.vars.map d.varLen) := by
      have hbv' : st.firstVar.getD br = bv := by rw [s3, ← hbvdef]; rfl
      have : ¬ (bv ≤ 0 ∨ Hdr.len d > bv ∨ br ≤ 0 ∨ bv > br) := by omega
      simp only [computeVarShape, hlen, if_false, hst, cvsFinish, hrec, hbv', this, s5, s6]
    have hvo : checkVoffs bv br ((d.vars.map (shapeS d)).filter isRecShape).length
        (((d.vars.map (shapeS d)).map isRecShape).zip ((d.vars.map (fun v => v.begin)).zip (d.vars.map d.varLen))) = .ok () := by
      have hle : ¬ br < (if (firstOf d false d.vars).isSome then e else br) := by
        split <;> omega
      rw [zip3_map d d.vars (fun v hm => (hrefs v hm).1)]
      unfold checkVoffs
      simp only [List.length_map, hlen, if_false, voffsPass_chain, hfix, hrec', hle, ite_self]
    simp only [postPass, hcvs, checkVlens_ok d hvalid, hvo]
    exact ⟨_, rfl⟩

end PnVerif.Header
