import PnVerif.Model.SizeLimits
import PnVerif.Spec.SizeRules
/-
  C18: each loop of the size checks equals a closed form over the variables it does not skip.
-/
namespace PnVerif.SizeLimits
open PnVerif.Spec.SizeRules

/-- a variable the library can hold: element size 1..8, every fixed dimension at least 1
    (length 0 is NC_UNLIMITED and only legal as the record dimension) -/
def WF (v : Var) : Prop := 0 < v.xsz ∧ v.xsz ≤ 8 ∧ ∀ d ∈ v.dims, 0 < d
instance (v : Var) : Decidable (WF v) := by unfold WF; infer_instance

theorem prodl_cons (d : Nat) (ds : List Nat) : prodl (d :: ds) = d * prodl ds := rfl

theorem prodl_pos : ∀ (ds : List Nat), (∀ d ∈ ds, 0 < d) → 0 < prodl ds
  | [], _ => Nat.one_pos
  | d :: ds, h =>
    Nat.mul_pos (h d List.mem_cons_self) (prodl_pos ds fun x hx => h x (List.mem_cons_of_mem _ hx))

/-- the products `prod *= shape[i]` that ncmpio_NC_check_vlen actually computes -/
def vlenProducts (vlenMax : Nat) : Nat → List Nat → List Nat
  | _, [] => []
  | prod, d :: ds => if d > vlenMax / prod then [] else (prod * d) :: vlenProducts vlenMax (prod * d) ds

theorem not_gt_div_iff {d m p : Nat} (hp : 0 < p) : ¬ d > m / p ↔ p * d ≤ m := by
  rw [Nat.not_lt, Nat.le_div_iff_mul_le hp, Nat.mul_comm]

theorem checkVlenLoop_iff (m : Nat) : ∀ (ds : List Nat) (p : Nat), 0 < p → p ≤ m → (∀ d ∈ ds, 0 < d) →
    (checkVlenLoop m p ds = true ↔ p * prodl ds ≤ m)
  | [], p, _, hpm, _ => by simpa [checkVlenLoop, prodl] using hpm
  | d :: ds, p, hp, _, hd => by
    have hds := fun x hx => hd x (List.mem_cons_of_mem _ hx)
    rw [checkVlenLoop, prodl_cons, ← Nat.mul_assoc]
    by_cases h : d > m / p
    · rw [if_pos h]
      have := Nat.le_mul_of_pos_right (p * d) (prodl_pos ds hds)
      exact ⟨fun hf => Bool.noConfusion hf,
        fun hle => absurd h ((not_gt_div_iff hp).mpr (Nat.le_trans this hle))⟩
    · rw [if_neg h]
      exact checkVlenLoop_iff m ds (p * d) (Nat.mul_pos hp (hd d List.mem_cons_self))
        ((not_gt_div_iff hp).mp h) hds

theorem vlenProducts_bounded (m : Nat) : ∀ (ds : List Nat) (p : Nat), 0 < p → (∀ d ∈ ds, 0 < d) →
    ∀ x ∈ vlenProducts m p ds, x ≤ m
  | [], _, _, _, _, hx => nomatch hx
  | d :: ds, p, hp, hd, x, hx => by
    rw [vlenProducts] at hx
    by_cases h : d > m / p
    · rw [if_pos h] at hx; cases hx
    · rw [if_neg h] at hx
      rcases List.mem_cons.mp hx with rfl | hx
      · exact (not_gt_div_iff hp).mp h
      · exact vlenProducts_bounded m ds (p * d) (Nat.mul_pos hp (hd d List.mem_cons_self))
          (fun x hx => hd x (List.mem_cons_of_mem _ hx)) x hx

theorem checkVlen_iff (v : Var) (m : Nat) (hw : WF v) (hm : 8 ≤ m) :
    checkVlen v m = true ↔ vbytes v ≤ m := by
  unfold checkVlen vbytes
  exact checkVlenLoop_iff m v.dims v.xsz hw.1 (by have := hw.2.1; omega) hw.2.2

theorem varLen_eq (v : Var) : varLen v = vsize v := by
  unfold varLen vsize pad4 vbytes
  rw [Nat.mul_comm (prodl v.dims) v.xsz]
  simp only []
  split <;> omega

theorem vsize_mod4 (v : Var) : vsize v % 4 = 0 := by unfold vsize pad4; omega

theorem fixedVars_cons (v : Var) (vs : List Var) :
    fixedVars (v :: vs) = if v.isRec then fixedVars vs else v :: fixedVars vs := by
  unfold fixedVars; cases h : v.isRec <;> simp [h]

theorem recVars_cons (v : Var) (vs : List Var) :
    recVars (v :: vs) = if v.isRec then v :: recVars vs else recVars vs := by
  unfold recVars; cases h : v.isRec <;> simp [h]
theorem mem_fixed_or_rec (vars : List Var) (v : Var) :
    v ∈ vars ↔ v ∈ fixedVars vars ∨ v ∈ recVars vars := by
  unfold fixedVars recVars
  simp only [List.mem_filter]
  cases v.isRec <;> simp

theorem pad4_le_iff (n m : Nat) (h : m % 4 = 0) : pad4 n ≤ m ↔ n ≤ m := by unfold pad4; omega

theorem pad4_le_iff' (n m : Nat) (h : m % 4 = 3) : pad4 n ≤ m ↔ n + 3 ≤ m := by unfold pad4; omega

/-- "− 3 handles rounded-up size": testing the unpadded byte count against vlen_max is the same as
    testing the padded vsize against the format's limit -/
theorem not_checkVlen_iff (fmt : Nat) (v : Var) (hw : WF v) (hf : fmt = 1 ∨ fmt = 2 ∨ fmt = 5) :
    (!checkVlen v (vlenMax fmt)) = true ↔ Big fmt v := by
  obtain ⟨hl, h8, h4⟩ : vlenMax fmt = limit fmt ∧ 8 ≤ limit fmt ∧ limit fmt % 4 = 0 := by
    rcases hf with rfl | rfl | rfl <;> decide
  rw [Bool.not_eq_true', ← Bool.not_eq_true, hl, checkVlen_iff v _ hw h8,
    Big, vsize, ← pad4_le_iff _ _ h4, Nat.not_le]

/-- `last` after a pass of ncmpio_NC_check_vlens over the variables `L` it does not skip -/
def lastFlag (fmt init : Nat) (L : List Var) : Nat :=
  match L.getLast? with
  | none => init
  | some v => if Big fmt v then 1 else 0

/-- what such a pass computes from the state `(lg, ls)` -/
def scanResult (fmt lg ls : Nat) (L : List Var) : Option (Nat × Nat) :=
  if fmt ≥ 5 ∧ ∃ v ∈ L, Big fmt v then none
  else some (lg + L.countP (fun v => decide (Big fmt v)), lastFlag fmt ls L)

theorem scanResult_cons (fmt lg ls : Nat) (v : Var) (L : List Var) :
    scanResult fmt lg ls (v :: L) =
      if Big fmt v then (if fmt ≥ 5 then none else scanResult fmt (lg + 1) 1 L)
      else scanResult fmt lg 0 L := by
  have hl : lastFlag fmt ls (v :: L) = lastFlag fmt (if Big fmt v then 1 else 0) L := by
    unfold lastFlag; rw [List.getLast?_cons]; cases L.getLast? <;> rfl
  unfold scanResult
  rw [hl, List.countP_cons]
  by_cases hb : Big fmt v
  · by_cases h5 : fmt ≥ 5
    · simp [h5, hb]
    · simp [h5, hb, Nat.add_assoc, Nat.add_comm 1]
  · simp [hb]

theorem pass1_eq (fmt : Nat) (hf : fmt = 1 ∨ fmt = 2 ∨ fmt = 5) :
    ∀ (vars : List Var) (lg ls rc : Nat), (∀ v ∈ vars, WF v) →
    pass1 fmt (vlenMax fmt) vars (lg, ls, rc) =
      (scanResult fmt lg ls (fixedVars vars)).map fun s => (s.1, s.2, rc + (recVars vars).length)
  | [], lg, ls, rc, _ => by simp [pass1, fixedVars, recVars, scanResult, lastFlag]
  | v :: vs, lg, ls, rc, hw => by
    have ih := pass1_eq fmt hf vs
    have hws := fun x hx => hw x (List.mem_cons_of_mem _ hx)
    rw [pass1, fixedVars_cons, recVars_cons]
    cases v.isRec
    · simp only [Bool.false_eq_true, if_false, scanResult_cons, ih _ _ _ hws,
        not_checkVlen_iff fmt v (hw v List.mem_cons_self) hf]
      split
      · split <;> rfl
      · rfl
    · simp only [if_true, ih _ _ _ hws, List.length_cons, Nat.add_assoc, Nat.add_comm 1]

theorem pass2_eq (fmt : Nat) (hf : fmt = 1 ∨ fmt = 2 ∨ fmt = 5) :
    ∀ (vars : List Var) (lg ls : Nat), (∀ v ∈ vars, WF v) →
    pass2 fmt (vlenMax fmt) vars (lg, ls) = scanResult fmt lg ls (recVars vars)
  | [], lg, ls, _ => by simp [pass2, recVars, scanResult, lastFlag]
  | v :: vs, lg, ls, hw => by
    have ih := pass2_eq fmt hf vs
    have hws := fun x hx => hw x (List.mem_cons_of_mem _ hx)
    rw [pass2, recVars_cons]
    cases v.isRec
    · simp only [Bool.not_false, if_true, Bool.false_eq_true, if_false, ih _ _ hws]
    · simp only [Bool.not_true, Bool.false_eq_true, if_false, if_true, scanResult_cons, ih _ _ hws,
        not_checkVlen_iff fmt v (hw v List.mem_cons_self) hf]

theorem section_spec (fmt init : Nat) (L : List Var) :
    ((¬ L.countP (fun v => decide (Big fmt v)) > 1 ∧
        ¬ (L.countP (fun v => decide (Big fmt v)) = 1 ∧ lastFlag fmt init L = 0)) ↔
      ∀ v ∈ L.dropLast, ¬ Big fmt v) ∧
    ((∀ v ∈ L.dropLast, ¬ Big fmt v) →
      (L.countP (fun v => decide (Big fmt v)) = 1 ↔ ∃ v ∈ L.getLast?, Big fmt v)) := by
  rcases List.eq_nil_or_concat L with rfl | ⟨I, b, rfl⟩
  · simp
  · -- `L = I ++ [b]`: count and `last` come from `I` and `b`; the rest is arithmetic in the count of `I`
    have h0 : (∀ v ∈ I, ¬ Big fmt v) ↔ I.countP (fun v => decide (Big fmt v)) = 0 := by
      simp [List.countP_eq_zero]
    rw [List.concat_eq_append, List.dropLast_concat, h0, List.countP_append, List.countP_singleton]
    simp only [lastFlag, List.getLast?_concat, Option.mem_def, Option.some.injEq, exists_eq_left',
      decide_eq_true_eq]
    generalize I.countP (fun v => decide (Big fmt v)) = n
    by_cases hb : Big fmt b
    · simp only [hb, if_true, iff_true]; refine ⟨?_, fun h => ?_⟩ <;> omega
    · simp only [hb, if_false, iff_false, and_true]; refine ⟨?_, fun h => ?_⟩ <;> omega

theorem section_ite (fmt init : Nat) (L : List Var) (x : Int) :
    (if L.countP (fun v => decide (Big fmt v)) > 1 then NC_EVARSIZE
      else if L.countP (fun v => decide (Big fmt v)) = 1 ∧ lastFlag fmt init L = 0 then NC_EVARSIZE
      else x) =
    if ∀ v ∈ L.dropLast, ¬ Big fmt v then x else NC_EVARSIZE := by
  have h := (section_spec fmt init L).1
  by_cases hd : ∀ v ∈ L.dropLast, ¬ Big fmt v
  · rw [if_pos hd, if_neg (h.mpr hd).1, if_neg (h.mpr hd).2]
  · rw [if_neg hd]
    by_cases h1 : L.countP (fun v => decide (Big fmt v)) > 1
    · rw [if_pos h1]
    · rw [if_neg h1, if_pos (Classical.not_not.mp fun h2 => hd (h.mp ⟨h1, h2⟩))]

theorem checkVlens_eq (fmt : Nat) (vars : List Var) (hf : fmt = 1 ∨ fmt = 2 ∨ fmt = 5)
    (hw : ∀ v ∈ vars, WF v) :
    checkVlens fmt vars = if SizeRules fmt vars then NC_NOERR else NC_EVARSIZE := by
  unfold SizeRules
  by_cases he : vars = []
  · subst he
    exact (if_pos (by by_cases h : fmt = 5 <;> simp [h, fixedVars, recVars])).symm
  have he' : ¬ vars.isEmpty = true := by rwa [List.isEmpty_iff]
  unfold checkVlens
  simp only [if_neg he', pass1_eq fmt hf vars _ _ _ hw, pass2_eq fmt hf vars _ _ hw, scanResult,
    Nat.zero_add]
  by_cases h5 : fmt = 5
  · subst h5
    have h0 : ∀ L : List Var, (¬ ∃ v ∈ L, Big 5 v) → L.countP (fun v => decide (Big 5 v)) = 0 :=
      fun L h => List.countP_eq_zero.mpr fun v hv hb => h ⟨v, hv, of_decide_eq_true hb⟩
    simp only [ge_iff_le, Nat.le_refl, true_and, if_true]
    by_cases hF : ∃ v ∈ fixedVars vars, Big 5 v
    · obtain ⟨v, hv, hb⟩ := hF
      simp only [if_pos (⟨v, hv, hb⟩ : ∃ v ∈ fixedVars vars, Big 5 v), Option.map_none]
      exact (if_neg fun h => h v ((mem_fixed_or_rec vars v).mpr (Or.inl hv)) hb).symm
    simp only [if_neg hF, Option.map_some, h0 _ hF, gt_iff_lt, Nat.not_lt_zero, Nat.zero_ne_one,
      false_and, if_false]
    by_cases hR : ∃ v ∈ recVars vars, Big 5 v
    · obtain ⟨v, hv, hb⟩ := hR
      have hn : (recVars vars).length ≠ 0 := fun h => by
        rw [List.length_eq_zero_iff.mp h] at hv; cases hv
      simp only [if_neg hn, if_pos (⟨v, hv, hb⟩ : ∃ v ∈ recVars vars, Big 5 v)]
      exact (if_neg fun h => h v ((mem_fixed_or_rec vars v).mpr (Or.inr hv)) hb).symm
    · simp only [if_neg hR, h0 _ hR, Nat.not_lt_zero, Nat.zero_ne_one, false_and, if_false, ite_self]
      exact (if_pos fun v hv hb => ((mem_fixed_or_rec vars v).mp hv).elim
        (fun h => hF ⟨v, h, hb⟩) (fun h => hR ⟨v, h, hb⟩)).symm
  · have h5' : ¬ fmt ≥ 5 := by omega
    simp only [h5, h5', false_and, if_false, Option.map_some, section_ite, List.length_eq_zero_iff]
    have h1 := (section_spec fmt 0 (fixedVars vars)).2
    -- `large_fix_vars_count > 1 || (== 1 && last == 0)`: first clause of `SizeRules`
    by_cases hdF : ∀ v ∈ (fixedVars vars).dropLast, ¬ Big fmt v
    · rw [if_pos hdF]
      -- `rec_vars_count == 0`, else `large_fix_vars_count == 1`: second clause
      by_cases hR : recVars vars = []
      · rw [if_pos hR, if_pos ⟨hdF, fun _ _ _ => hR, hR ▸ fun _ h => nomatch h⟩]
      rw [if_neg hR]
      by_cases hc : (fixedVars vars).countP (fun v => decide (Big fmt v)) = 1
      · obtain ⟨v, hv, hb⟩ := (h1 hdF).mp hc
        rw [if_pos hc, if_neg fun h => hR (h.2.1 v hv hb)]
      · have h2 : ∀ v ∈ (fixedVars vars).getLast?, Big fmt v → recVars vars = [] :=
          fun v hv hb => absurd ((h1 hdF).mpr ⟨v, hv, hb⟩) hc
        rw [if_neg hc]
        -- the same two tests on the record variables: third clause
        by_cases hdR : ∀ v ∈ (recVars vars).dropLast, ¬ Big fmt v
        · rw [if_pos hdR, if_pos ⟨hdF, h2, hdR⟩]
        · rw [if_neg hdR, if_neg fun h => hdR h.2.2]
    · rw [if_neg hdF, if_neg fun h => hdF h.1]

theorem checkVlens_iff (fmt : Nat) (vars : List Var) (hf : fmt = 1 ∨ fmt = 2 ∨ fmt = 5)
    (hw : ∀ v ∈ vars, WF v) :
    (checkVlens fmt vars = NC_NOERR ↔ SizeRules fmt vars) ∧
    (checkVlens fmt vars = NC_NOERR ∨ checkVlens fmt vars = NC_EVARSIZE) := by
  rw [checkVlens_eq fmt vars hf hw]
  by_cases h : SizeRules fmt vars <;> simp [h, NC_EVARSIZE, NC_NOERR]

theorem sumLens_cons (v : Var) (l : List Var) : sumLens (v :: l) = vsize v + sumLens l := rfl

theorem rndup4 (e : Nat) (h : e % 4 = 0) : rndup e 4 = e := by unfold rndup; omega
theorem rndup4_pad (e : Nat) : rndup e 4 = pad4 e := by unfold rndup pad4; omega

theorem sumLens_mod4 : ∀ l : List Var, sumLens l % 4 = 0
  | [] => rfl
  | v :: l => by rw [sumLens_cons]; have := vsize_mod4 v; have := sumLens_mod4 l; omega

/-- begins of a run of consecutive variables starting at `e` -/
def runBegins (e : Nat) (l : List Var) : List Nat :=
  (List.range l.length).map (fun k => e + sumLens (l.take k))

theorem runBegins_cons (e : Nat) (v : Var) (l : List Var) :
    runBegins e (v :: l) = e :: runBegins (e + vsize v) l := by
  unfold runBegins
  rw [List.length_cons, List.range_succ_eq_map, List.map_cons, List.map_map]
  congr 1
  apply List.map_congr_left; intro k _
  show e + sumLens ((v :: l).take (k + 1)) = e + vsize v + sumLens (l.take k)
  rw [List.take_succ_cons, sumLens_cons]; omega

/-- some variable of the run starts above `m` -/
def RunExceeds (m e : Nat) (l : List Var) : Prop := ∃ k, k < l.length ∧ e + sumLens (l.take k) > m

theorem runExceeds_cons (m e : Nat) (v : Var) (l : List Var) :
    RunExceeds m e (v :: l) ↔ e > m ∨ RunExceeds m (e + vsize v) l := by
  unfold RunExceeds
  constructor
  · rintro ⟨_ | k, hk, h⟩
    · exact Or.inl h
    · exact Or.inr ⟨k, Nat.lt_of_succ_lt_succ hk,
        by rwa [List.take_succ_cons, sumLens_cons, ← Nat.add_assoc] at h⟩
  · rintro (h | ⟨k, hk, h⟩)
    · exact ⟨0, Nat.zero_lt_succ _, h⟩
    · exact ⟨k + 1, Nat.succ_lt_succ hk, by rwa [List.take_succ_cons, sumLens_cons, ← Nat.add_assoc]⟩

instance (m e : Nat) (l : List Var) : Decidable (RunExceeds m e l) := by
  unfold RunExceeds
  exact decidable_of_iff (∃ k ∈ List.range l.length, e + sumLens (l.take k) > m)
    ⟨fun ⟨k, hk, h⟩ => ⟨k, List.mem_range.mp hk, h⟩, fun ⟨k, hk, h⟩ => ⟨k, List.mem_range.mpr hk, h⟩⟩

/-- what a loop of NC_begins returns for the variables `L` it does not skip, from offset `e` on:
    their begins and the end of the last one; `g`: with the guards of the repaired code -/
def passResult (fmt : Nat) (g : Bool) (e : Nat) (L : List Var) : Option (List Nat × Nat) :=
  if (fmt = 1 ∧ RunExceeds NC_MAX_INT e L) ∨ (g = true ∧ e + sumLens L > NC_MAX_INT64) then none
  else some (runBegins e L, e + sumLens L)

theorem passResult_nil (fmt : Nat) (g : Bool) (e : Nat) (hg : g = true → e ≤ NC_MAX_INT64) :
    passResult fmt g e [] = some ([], e) := by
  refine if_neg ?_
  rintro (⟨_, k, hk, _⟩ | ⟨h, h'⟩)
  · cases hk
  · exact Nat.not_lt.mpr (hg h) h'

theorem passResult_cons (fmt : Nat) (g : Bool) (e : Nat) (v : Var) (L : List Var) :
    passResult fmt g e (v :: L) =
      if fmt = 1 ∧ e > NC_MAX_INT then none
      else if g = true ∧ vsize v > NC_MAX_INT64 - e then none
      else match passResult fmt g (e + vsize v) L with
        | none => none
        | some (bs, e') => some (e :: bs, e') := by
  unfold passResult
  simp only [runExceeds_cons, runBegins_cons, sumLens_cons, ← Nat.add_assoc]
  by_cases h1 : fmt = 1 ∧ e > NC_MAX_INT
  · rw [if_pos h1, if_pos (Or.inl ⟨h1.1, Or.inl h1.2⟩)]
  by_cases h2 : g = true ∧ vsize v > NC_MAX_INT64 - e
  · rw [if_neg h1, if_pos h2, if_pos (Or.inr ⟨h2.1, by omega⟩)]
  rw [if_neg h1, if_neg h2]
  by_cases h3 : (fmt = 1 ∧ RunExceeds NC_MAX_INT (e + vsize v) L) ∨
      (g = true ∧ e + vsize v + sumLens L > NC_MAX_INT64)
  · rw [if_pos h3, if_pos (h3.imp (fun h => ⟨h.1, Or.inr h.2⟩) id)]
  · rw [if_neg h3, if_neg]
    rintro (⟨hf, h | h⟩ | h)
    · exact h1 ⟨hf, h⟩
    · exact h3 (Or.inl ⟨hf, h⟩)
    · exact h3 (Or.inr h)

theorem passResult_false (fmt e : Nat) (L : List Var) :
    passResult fmt false e L =
      if fmt = 1 ∧ RunExceeds NC_MAX_INT e L then none else some (runBegins e L, e + sumLens L) := by
  simp only [passResult, Bool.false_eq_true, false_and, or_false]

theorem passResult_true (fmt e : Nat) (L : List Var) :
    passResult fmt true e L =
      if e + sumLens L > NC_MAX_INT64 then none else passResult fmt false e L := by
  rw [passResult_false, passResult]
  by_cases h : e + sumLens L > NC_MAX_INT64
  · rw [if_pos h, if_pos (Or.inr ⟨rfl, h⟩)]
  · simp only [h, and_false, or_false, if_false]

theorem fixedPass_eq (fmt : Nat) : ∀ (vars : List Var) (e : Nat), e % 4 = 0 →
    fixedPass fmt e vars = passResult fmt false e (fixedVars vars)
  | [], e, _ => (passResult_nil fmt false e (fun h => nomatch h)).symm
  | v :: vs, e, he => by
    have he' : (e + vsize v) % 4 = 0 := by rw [Nat.add_mod, he, vsize_mod4]
    rw [fixedPass, fixedVars_cons]
    cases v.isRec
    · simp only [passResult_cons, rndup4 e he, varLen_eq, fixedPass_eq fmt vs _ he',
        Bool.false_eq_true, false_and, if_false]
      rfl
    · exact fixedPass_eq fmt vs e he

theorem recPass_eq (fmt : Nat) : ∀ (vars : List Var) (e : Nat),
    recPass fmt e vars = passResult fmt false e (recVars vars)
  | [], e => (passResult_nil fmt false e (fun h => nomatch h)).symm
  | v :: vs, e => by
    rw [recPass, recVars_cons]
    cases v.isRec
    · exact recPass_eq fmt vs e
    · simp only [if_true, passResult_cons, varLen_eq, recPass_eq fmt vs, Bool.not_true,
        Bool.false_eq_true, false_and, if_false]
      rfl

theorem fixedPassG_eq (fmt : Nat) : ∀ (vars : List Var) (e : Nat), e % 4 = 0 → e ≤ NC_MAX_INT64 →
    fixedPassG fmt e vars = passResult fmt true e (fixedVars vars)
  | [], e, _, hle => (passResult_nil fmt true e (fun _ => hle)).symm
  | v :: vs, e, he, hle => by
    have he' : (e + vsize v) % 4 = 0 := by rw [Nat.add_mod, he, vsize_mod4]
    rw [fixedPassG, fixedVars_cons]
    cases v.isRec
    · simp only [passResult_cons, rndup4 e he, varLen_eq, Bool.false_eq_true, if_false, true_and]
      refine ite_congr rfl (fun _ => rfl) fun _ => ite_congr rfl (fun _ => rfl) fun h => ?_
      rw [fixedPassG_eq fmt vs _ he' (Nat.add_le_of_le_sub' hle (Nat.not_lt.mp h))]; rfl
    · exact fixedPassG_eq fmt vs e he hle

theorem recPassG_eq (fmt : Nat) : ∀ (vars : List Var) (e : Nat), e ≤ NC_MAX_INT64 →
    recPassG fmt e vars = passResult fmt true e (recVars vars)
  | [], e, hle => (passResult_nil fmt true e (fun _ => hle)).symm
  | v :: vs, e, hle => by
    rw [recPassG, recVars_cons]
    cases v.isRec
    · exact recPassG_eq fmt vs e hle
    · simp only [if_true, passResult_cons, varLen_eq, Bool.not_true, Bool.false_eq_true, if_false,
        true_and]
      refine ite_congr rfl (fun _ => rfl) fun _ => ite_congr rfl (fun _ => rfl) fun h => ?_
      rw [recPassG_eq fmt vs _ (Nat.add_le_of_le_sub' hle (Nat.not_lt.mp h))]; rfl

theorem beginRule_iff (fmt : Nat) (l : Lay) (vars : List Var) :
    BeginRule fmt l vars ↔
      ¬ (fmt = 1 ∧ (RunExceeds NC_MAX_INT l.beginVar (fixedVars vars) ∨
                    RunExceeds NC_MAX_INT (recSection l vars) (recVars vars))) := by
  unfold BeginRule RunExceeds fixedBegin recBegin NC_MAX_INT
  constructor
  · rintro h ⟨hf, ⟨k, hk, hgt⟩ | ⟨k, hk, hgt⟩⟩
    · exact absurd ((h hf).1 k hk) (Nat.not_lt.mpr hgt)
    · exact absurd ((h hf).2 k hk) (Nat.not_lt.mpr hgt)
  · exact fun h hf => ⟨fun k hk => Nat.lt_of_not_le fun hn => h ⟨hf, .inl ⟨k, hk, hn⟩⟩,
      fun k hk => Nat.lt_of_not_le fun hn => h ⟨hf, .inr ⟨k, hk, hn⟩⟩⟩

theorem sumLens_take_le : ∀ (l : List Var) (k : Nat), sumLens (l.take k) ≤ sumLens l
  | [], k => by simp [sumLens]
  | v :: l, 0 => by simp [sumLens]
  | v :: l, k + 1 => by
    rw [List.take_succ_cons, sumLens_cons, sumLens_cons]
    have := sumLens_take_le l k
    omega

theorem le_rndup (x a : Nat) (ha : 0 < a) : x ≤ rndup x a := by
  unfold rndup
  have h1 := Nat.div_add_mod (x + a - 1) a
  have h2 := Nat.mod_lt (x + a - 1) ha
  rw [Nat.mul_comm]
  omega

theorem le_pad4 (x : Nat) : x ≤ pad4 x := by unfold pad4; omega

theorem pad4_le_recSection (l : Lay) (vars : List Var) :
    pad4 (l.beginVar + sumLens (fixedVars vars) + l.vMinfree) ≤ recSection l vars := by
  unfold recSection
  split
  · exact le_rndup _ _ (by omega)
  · exact Nat.le_refl _

theorem le_recSection (l : Lay) (vars : List Var) :
    l.beginVar + sumLens (fixedVars vars) ≤ recSection l vars :=
  Nat.le_trans (Nat.le_add_right _ _) (Nat.le_trans (le_pad4 _) (pad4_le_recSection l vars))

theorem ite_pos_self (x : Nat) : (if 0 < x then x else 0) = x := by split <;> omega

/-- `begin_rec` as NC_begins computes it from the end of the fixed section -/
theorem recSection_eq (l : Lay) (vars : List Var) :
    (if l.rAlign > 1 then rndup (pad4 (l.beginVar + sumLens (fixedVars vars) + l.vMinfree)) l.rAlign
      else pad4 (l.beginVar + sumLens (fixedVars vars) + l.vMinfree)) = recSection l vars := rfl

/-- `recsize` is left unspecified: Spec/SizeRules.lean says nothing about it -/
theorem ncBegins_eq (fmt : Nat) (l : Lay) (vars : List Var) (h4 : l.beginVar % 4 = 0) :
    ∃ recsize, ncBegins fmt l vars =
      if fmt = 1 ∧ (RunExceeds NC_MAX_INT l.beginVar (fixedVars vars) ∨
                    RunExceeds NC_MAX_INT (recSection l vars) (recVars vars)) then none
      else some { fixed := runBegins l.beginVar (fixedVars vars),
                  recs := runBegins (recSection l vars) (recVars vars),
                  beginRec := recSection l vars, recsize := recsize } := by
  unfold ncBegins
  rw [fixedPass_eq fmt vars _ h4, passResult_false]
  by_cases h1 : fmt = 1 ∧ RunExceeds NC_MAX_INT l.beginVar (fixedVars vars)
  · exact ⟨0, by rw [if_pos h1, if_pos ⟨h1.1, Or.inl h1.2⟩]⟩
  simp only [if_neg h1, ite_pos_self, rndup4_pad, recSection_eq, recPass_eq, passResult_false]
  by_cases h2 : fmt = 1 ∧ RunExceeds NC_MAX_INT (recSection l vars) (recVars vars)
  · exact ⟨0, by rw [if_pos h2, if_pos ⟨h2.1, Or.inr h2.2⟩]⟩
  · exact ⟨_, by rw [if_neg h2, if_neg fun h => h.2.elim (fun x => h1 ⟨h.1, x⟩) (fun x => h2 ⟨h.1, x⟩)]⟩

theorem ncBegins_isSome_iff (fmt : Nat) (l : Lay) (vars : List Var) (h4 : l.beginVar % 4 = 0) :
    (ncBegins fmt l vars).isSome ↔ BeginRule fmt l vars := by
  obtain ⟨_, h⟩ := ncBegins_eq fmt l vars h4
  rw [h, beginRule_iff]
  split <;> simp [*]

theorem ncBegins_some (fmt : Nat) (l : Lay) (vars : List Var) (h4 : l.beginVar % 4 = 0) (b : Begins)
    (h : ncBegins fmt l vars = some b) :
    b.fixed = runBegins l.beginVar (fixedVars vars) ∧
    b.recs = runBegins (recSection l vars) (recVars vars) ∧ b.beginRec = recSection l vars := by
  obtain ⟨_, h'⟩ := ncBegins_eq fmt l vars h4
  rw [h'] at h
  split at h
  · cases h
  · cases h; exact ⟨rfl, rfl, rfl⟩

theorem runExceeds_of_head (m e : Nat) (v : Var) (l : List Var) (h : e > m) : RunExceeds m e (v :: l) :=
  (runExceeds_cons m e v l).mpr (Or.inl h)

theorem rndup_eq_mod (b a : Nat) (ha : 0 < a) :
    rndup b a = if b % a = 0 then b else b + (a - b % a) := by
  unfold rndup
  have h1 := Nat.div_add_mod b a
  have h2 := Nat.mod_lt b ha
  generalize hq : b / a = q at h1
  generalize hr : b % a = r at h1 h2
  by_cases h0 : r = 0
  · simp only [h0, if_true]
    have e : b + a - 1 = a * q + (a - 1) := by omega
    have e2 : (a - 1) / a = 0 := Nat.div_eq_of_lt (by omega)
    rw [e, Nat.mul_add_div ha, e2, Nat.add_zero, Nat.mul_comm]; omega
  · simp only [h0, if_false]
    have hm : a * (q + 1) = a * q + a := Nat.mul_succ a q
    have e : b + a - 1 = a * (q + 1) + (r - 1) := by omega
    have e2 : (r - 1) / a = 0 := Nat.div_eq_of_lt (by omega)
    rw [e, Nat.mul_add_div ha, e2, Nat.add_zero, Nat.mul_comm]; omega

theorem rndupG_eq (b a : Nat) (ha : 0 < a) (hb : b ≤ NC_MAX_INT64) :
    rndupG b a = if rndup b a ≤ NC_MAX_INT64 then some (rndup b a) else none := by
  have hc : a - b % a > NC_MAX_INT64 - b ↔ ¬ b + (a - b % a) ≤ NC_MAX_INT64 := by omega
  rw [rndupG, rndup_eq_mod b a ha]
  by_cases h0 : b % a = 0
  · rw [if_neg (by omega), if_pos h0, if_pos hb]
  · rw [if_pos (by omega), if_neg h0]; simp only [hc, ite_not]

theorem rndupG_ite (p a : Nat) (hp : p ≤ NC_MAX_INT64) :
    (if a > 1 then rndupG p a else some p) =
      if (if a > 1 then rndup p a else p) ≤ NC_MAX_INT64 then some (if a > 1 then rndup p a else p)
      else none := by
  by_cases ha : a > 1
  · simp only [if_pos ha]; exact rndupG_eq _ _ (by omega) hp
  · simp only [if_neg ha, if_pos hp]

theorem ncBeginsG_eq (fmt : Nat) (l : Lay) (vars : List Var) (h4 : l.beginVar % 4 = 0)
    (hb : l.beginVar ≤ NC_MAX_INT64) :
    ncBeginsG fmt l vars =
      if recSection l vars + sumLens (recVars vars) > NC_MAX_INT64 then none else ncBegins fmt l vars := by
  -- every guard tests a quantity that is at most the end of the record section
  have hend : ∀ {y}, y ≤ recSection l vars → y > NC_MAX_INT64 →
      recSection l vars + sumLens (recVars vars) > NC_MAX_INT64 :=
    fun h hy => Nat.lt_of_lt_of_le hy (Nat.le_trans h (Nat.le_add_right _ _))
  unfold ncBeginsG ncBegins
  rw [fixedPassG_eq fmt vars _ h4 hb, fixedPass_eq fmt vars _ h4, passResult_true]
  by_cases hF : l.beginVar + sumLens (fixedVars vars) > NC_MAX_INT64
  · rw [if_pos hF, if_pos (hend (le_recSection l vars) hF)]
  rw [if_neg hF, passResult_false]
  by_cases h1 : fmt = 1 ∧ RunExceeds NC_MAX_INT l.beginVar (fixedVars vars)
  · simp only [if_pos h1, ite_self]
  have hp := pad4_le_iff' (l.beginVar + sumLens (fixedVars vars) + l.vMinfree) NC_MAX_INT64 (by decide)
  simp only [if_neg h1, ite_pos_self, rndup4_pad, recSection_eq,
    Nat.sub_lt_iff_lt_add (by decide : 3 ≤ NC_MAX_INT64)]
  by_cases h2 : l.beginVar + sumLens (fixedVars vars) + l.vMinfree + 3 > NC_MAX_INT64
  · rw [if_pos h2, if_pos (hend (pad4_le_recSection l vars)
      (Nat.not_le.mp (mt hp.mp (Nat.not_le.mpr h2))))]
  rw [if_neg h2, if_neg h2, rndupG_ite _ _ (hp.mpr (Nat.not_lt.mp h2)), recSection_eq]
  by_cases h5 : recSection l vars ≤ NC_MAX_INT64
  · simp only [if_pos h5, recPassG_eq fmt vars _ h5, recPass_eq, passResult_true]
    by_cases hE : recSection l vars + sumLens (recVars vars) > NC_MAX_INT64
    · simp only [if_pos hE]
    · simp only [if_neg hE]
  · rw [if_neg h5, if_pos (hend (Nat.le_refl _) (Nat.not_le.mp h5))]

end PnVerif.SizeLimits
