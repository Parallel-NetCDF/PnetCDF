import PnVerif.Model.Safety
import PnVerif.Lemmas.Window
/-
  Lemmas/Safety.lean — the instrumented window primitives of Model/Safety.lean:
  every recorded access is inside its object, the copy loops never spin, and the numeric invariant
  `offset + pos = chunk + stream position` that ties the bytes fetched to the bytes consumed.
-/
namespace PnVerif.Safety
open PnVerif.Spec PnVerif.Header

variable {file : Bytes} {chunk : Nat} {w : Win} {s : Bytes}

theorem inqFileFormat_ok {fmt : Fmt} (h : inqFileFormat file = .ok fmt) : 8 ≤ file.length :=
  Nat.not_lt.mp fun hl => by rw [inqFileFormat, if_pos hl] at h; cases h

theorem fetchAcc_safe (file : Bytes) (chunk : Nat) (w : Win) (hp : w.pos ≤ chunk) :
    ∀ a ∈ fetchAcc file chunk w, a.Safe := by
  have hs : (if chunk - w.pos = chunk then 0 else chunk - w.pos) ≤ chunk - w.pos := by split <;> omega
  intro a ha
  simp only [fetchAcc, List.mem_cons, List.mem_nil_iff, or_false] at ha
  generalize (if chunk - w.pos = chunk then 0 else chunk - w.pos) = slack at hs ha
  rcases ha with rfl | rfl | rfl | rfl <;> simp only [Acc.Safe] <;> omega

theorem refillAcc_safe (kind : AccKind) {k : Nat} (hp : w.pos ≤ chunk) (hk : k ≤ chunk) :
    ∀ a ∈ (if w.pos + k > chunk then
        fetchAcc file chunk w ++ [{ kind := kind, idx := (fetch file chunk w).pos, len := k, size := chunk }]
      else [{ kind := kind, idx := w.pos, len := k, size := chunk }]), a.Safe := by
  split
  · exact List.forall_mem_append.mpr ⟨fetchAcc_safe file chunk w hp, List.forall_mem_singleton.mpr (show 0 + k ≤ chunk by omega)⟩
  · exact List.forall_mem_singleton.mpr (show w.pos + k ≤ chunk by omega)

theorem getFixedAcc_safe {k : Nat} (hp : w.pos ≤ chunk) (hk : k ≤ chunk) :
    ∀ a ∈ getFixedAcc file chunk k w, a.Safe :=
  refillAcc_safe .fixed hp hk

theorem padAcc_safe {k : Nat} (hp : w.pos ≤ chunk) (hk : k ≤ chunk) :
    ∀ a ∈ padAcc file chunk k w, a.Safe :=
  refillAcc_safe .skip hp hk

theorem getFixedW_num {k : Nat} (h : Inv file chunk w s) (hk : k ≤ chunk) :
    (getFixedW file chunk k w).2.off + (getFixedW file chunk k w).2.pos = w.off + w.pos + k := by
  obtain ⟨w1, hw1, _, hn, _⟩ := refill (c := w.pos + k > chunk) h (by omega)
  unfold getFixedW
  rw [hw1]
  show w1.off + (w1.pos + k) = _
  omega

/-- `padW` is the window part of `getFixedW` -/
theorem padW_num {k : Nat} (h : Inv file chunk w s) (hk : k ≤ chunk) :
    (padW file chunk k w).off + (padW file chunk k w).pos = w.off + w.pos + k :=
  getFixedW_num h hk

/-- the copy loops of hdr_get_NC_name / hdr_get_NC_attrV: every memcpy reads inside the chunk
    buffer and writes inside the `total`-byte destination, whatever the number of refills -/
theorem getBytesAcc_safe (hc : 0 < chunk) (total : Nat) (n : Nat) (w : Win) (s : Bytes) (h : Inv file chunk w s) :
    ∀ done, done + n ≤ total → ∀ a ∈ getBytesAcc file chunk total n w done, a.Safe := by
  refine copyLoop_induction hc (motive := fun n w _ => ∀ done, done + n ≤ total →
    ∀ a ∈ getBytesAcc file chunk total n w done, a.Safe) ?_ ?_ n w s h
  · intro w _ _ done _
    rw [getBytesAcc, dif_pos rfl]
    exact fun _ ha => nomatch ha
  · intro n w w1 _ hn h hw1 _ hmod _ hk ih done hd
    have hp := h.pos
    have hr := hmod ▸ Nat.mod_lt w.pos hc
    have hpre : ∀ a ∈ (if chunk - w.pos = 0 then fetchAcc file chunk w else []), a.Safe := by
      split
      · exact fetchAcc_safe file chunk w hp
      · exact fun _ ha => nomatch ha
    rw [getBytesAcc]
    simp only [hn, dite_false, hw1, hk]
    refine List.forall_mem_append.mpr ⟨List.forall_mem_append.mpr ⟨hpre, ?_⟩, ih _ (by omega)⟩
    refine List.forall_mem_cons.mpr ⟨?_, List.forall_mem_singleton.mpr ?_⟩
    · show w1.pos + min (chunk - w1.pos) n ≤ chunk
      omega
    · show done + min (chunk - w1.pos) n ≤ total
      omega

/-- the copy loop always makes progress: the exit "nothing copied in this iteration" of the model
    (where the C would spin forever) is never taken -/
theorem getBytesStuck_false (hc : 0 < chunk) (n : Nat) (w : Win) (s : Bytes) (h : Inv file chunk w s) :
    getBytesStuck file chunk n w = false := by
  refine copyLoop_induction hc (motive := fun n w _ => getBytesStuck file chunk n w = false) ?_ ?_ n w s h
  · intro w _ _
    rw [getBytesStuck, dif_pos rfl]
  · intro n w w1 _ hn _ hw1 _ _ _ hk ih
    rw [getBytesStuck]
    simp only [hn, dite_false, hw1, hk]
    exact ih

theorem getBytesIters_zero (file : Bytes) (chunk : Nat) (w : Win) : getBytesIters file chunk 0 w = 0 := by
  rw [getBytesIters, dif_pos rfl]

/-- `p + n` bytes from the start of a chunk meet one chunk more than the `n - (c - p)` bytes that
    follow the first chunk -/
theorem chunks_succ {c p n : Nat} (hc : 0 < c) (hp : p < c) (hn : c - p < n) :
    (n - (c - p) + c - 1) / c + 1 = (p + n + c - 1) / c := by
  rw [show p + n + c - 1 = n - (c - p) + c - 1 + c by omega, Nat.add_div_right _ hc]

/-- a copy of `n` bytes that starts at buffer position `p` (after the refill) takes one iteration for
    each of the chunks that `[p, p + n)` meets -/
theorem getBytesIters_chunks (hc : 0 < chunk) (n : Nat) (w : Win) (s : Bytes) (h : Inv file chunk w s) :
    getBytesIters file chunk n w ≤ (w.pos % chunk + n + chunk - 1) / chunk := by
  refine copyLoop_induction hc
    (motive := fun n w _ => getBytesIters file chunk n w ≤ (w.pos % chunk + n + chunk - 1) / chunk) ?_ ?_ n w s h
  · intro w _ _
    rw [getBytesIters_zero]
    exact Nat.zero_le _
  · intro n w w1 _ hn _ hw1 _ hmod _ hk ih
    have hr := hmod ▸ Nat.mod_lt w.pos hc
    rw [getBytesIters]
    simp only [hn, dite_false, hw1, hk, ← hmod]
    by_cases hle : n ≤ chunk - w1.pos
    · rw [Nat.min_eq_right hle, Nat.sub_self, getBytesIters_zero]
      exact Nat.div_pos (by omega) hc
    · -- the rest of the buffer is copied, the next iteration starts with a refill
      have hlt := Nat.lt_of_not_le hle
      rw [Nat.min_eq_left (Nat.le_of_lt hlt), Nat.add_sub_of_le (Nat.le_of_lt hr)] at ih ⊢
      rw [Nat.mod_self, Nat.zero_add] at ih
      rw [← chunks_succ hc hr hlt, Nat.add_comm]
      exact Nat.succ_le_succ ih

/-- explicit iteration bound of the copy loop in any reachable state: the first iteration takes what
    is left in the buffer, every later one a whole chunk -/
theorem getBytesIters_le (hc : 0 < chunk) (n : Nat) (w : Win) (s : Bytes)
    (h : Inv file chunk w s) : getBytesIters file chunk n w ≤ n / chunk + 2 := by
  have hlt := Nat.mod_lt w.pos hc
  calc getBytesIters file chunk n w ≤ (w.pos % chunk + n + chunk - 1) / chunk := getBytesIters_chunks hc n w s h
    _ ≤ (n + 2 * chunk) / chunk := Nat.div_le_div_right (by omega)
    _ = n / chunk + 2 := Nat.add_mul_div_right n 2 hc

theorem getBytesW_num (hc : 0 < chunk) (n : Nat) (w : Win) (s : Bytes) (h : Inv file chunk w s) : ∀ acc,
    (getBytesW file chunk n w acc).2.off + (getBytesW file chunk n w acc).2.pos = w.off + w.pos + n := by
  refine copyLoop_induction hc (motive := fun n w _ => ∀ acc,
    (getBytesW file chunk n w acc).2.off + (getBytesW file chunk n w acc).2.pos = w.off + w.pos + n) ?_ ?_ n w s h
  · intro w _ _ acc
    rw [getBytesW, dif_pos rfl]
    rfl
  · intro n w w1 _ hn _ hw1 _ _ hnum hk ih acc
    rw [getBytesW]
    simp only [hn, dite_false, hw1, hk]
    rw [ih]
    show w1.off + (w1.pos + min (chunk - w1.pos) n) + (n - min (chunk - w1.pos) n) = _
    omega

structure RunOk (file : Bytes) (chunk : Nat) {α : Type} (p : P α) (w : Win) (s : Bytes) : Prop where
  safe  : ∀ a ∈ traceRun file chunk p w, a.Safe
  moves : stuckRun file chunk p w = false
  /-- the window is never ahead of or behind the stream -/
  num   : (endWin file chunk p w).off + (endWin file chunk p w).pos = w.off + w.pos + consumed p s
  pos   : (endWin file chunk p w).pos ≤ chunk

/-- 8 is the largest fixed-size read -/
theorem winRun_ok (hc : 8 ≤ chunk) {α : Type} (p : P α) :
    ∀ (w : Win) (s : Bytes), Inv file chunk w s → RunOk file chunk p w s := by
  induction p with
  | ret a => exact fun w s h => ⟨fun _ ha => (nomatch ha), rfl, rfl, h.pos⟩
  | fail e => exact fun w s h => ⟨fun _ ha => (nomatch ha), rfl, rfl, h.pos⟩
  | u32 k ih =>
    intro w s h
    obtain ⟨hv, hi⟩ := getFixedW_spec (k := 4) h (by omega)
    obtain ⟨h1, h2, h3, h4⟩ := ih (beNat (getFixedW file chunk 4 w).1) _ _ hi
    refine ⟨List.forall_mem_append.mpr ⟨getFixedAcc_safe h.pos (by omega), h1⟩, h2, ?_, h4⟩
    show _ = _ + (4 + consumed (k (beNat (ztake 4 s))) _)
    rw [← hv]
    exact h3.trans (by rw [getFixedW_num h (by omega), Nat.add_assoc])
  | u64 k ih =>
    intro w s h
    obtain ⟨hv, hi⟩ := getFixedW_spec (k := 8) h (by omega)
    obtain ⟨h1, h2, h3, h4⟩ := ih (beNat (getFixedW file chunk 8 w).1) _ _ hi
    refine ⟨List.forall_mem_append.mpr ⟨getFixedAcc_safe h.pos (by omega), h1⟩, h2, ?_, h4⟩
    show _ = _ + (8 + consumed (k (beNat (ztake 8 s))) _)
    rw [← hv]
    exact h3.trans (by rw [getFixedW_num h (by omega), Nat.add_assoc])
  | bytes n k ih =>
    intro w s h
    obtain ⟨hv, hi⟩ := getBytesW_nil (by omega) n h
    obtain ⟨h1, h2, h3, h4⟩ := ih (getBytesW file chunk n w []).1 _ _ hi
    refine ⟨List.forall_mem_append.mpr ⟨getBytesAcc_safe (by omega) n n w s h 0 (by omega), h1⟩, ?_, ?_, h4⟩
    · show (getBytesStuck file chunk n w || _) = false
      rw [getBytesStuck_false (by omega) n w s h]
      exact h2
    · show _ = _ + (n + consumed (k (ztake n s)) _)
      rw [← hv]
      exact h3.trans (by rw [getBytesW_num (by omega) n w s h [], Nat.add_assoc])
  | pad q k ih =>
    intro w s h
    obtain ⟨h1, h2, h3, h4⟩ := ih _ _ (padW_spec (k := q.val) h (by omega))
    refine ⟨List.forall_mem_append.mpr ⟨padAcc_safe h.pos (by omega), h1⟩, h2, ?_, h4⟩
    show _ = _ + (q.val + consumed k _)
    exact h3.trans (by rw [padW_num h (by omega), Nat.add_assoc])

end PnVerif.Safety
