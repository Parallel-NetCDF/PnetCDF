import PnVerif.Lemmas.ToolsSound
/-
  Lemmas about the REPAIRED variants of ncvalidator (VCfg flags strictSign = F4, dimid64 = F6, strictTag = F5):
  what the added tests guarantee about every header the reader returns.  With F4 and F6 in place every field
  of an accepted header fits the width the format gives it (`Encodable` up to NUL bytes in names):
  `validate_sound_repaired` does not need the hypothesis `Encodable` of `validate_sound_partial`.
  `DimB`, `AttB`, `VarB` are `DimWF`, `AttWF`, `VarWF` without the field `nul`, which no test of the reader gives.
-/
namespace PnVerif.Tools
open PnVerif.Spec PnVerif.Header

theorem vNonNeg_bound (c : VCfg) (hs : c.strictSign = true) (f : Fmt) {s s' : Bytes} {n : Nat}
    (h : vNonNeg c f.version s = .ok (n, s')) : n < nnLim f :=
  (vNonNeg_word c f).acc h (Or.inl hs)

theorem vDimid_bound (c : VCfg) (hd : c.dimid64 = true) (f : Fmt) {nd : Nat} {s s' : Bytes} {id : Nat} {fl : VFlags}
    (h : vDimid c f.version nd s = .ok ((id, fl), s')) : id < nd := by
  have := ((vDimid_word c f nd).acc h).2
  rwa [if_pos hd] at this

theorem vName_bound (c : VCfg) (hs : c.strictSign = true) (f : Fmt) {s s' nm : Bytes} {ok : Bool}
    (h : vName c f.version s = .ok ((nm, ok), s')) : nm.length < nnLim f := by
  obtain ⟨s1, _, _, h1, _⟩ := vName_run h
  exact vNonNeg_bound c hs f h1

structure DimB (f : Fmt) (d : Dim) : Prop where
  nameLen : d.name.length < nnLim f
  size    : d.size < nnLim f

theorem DimB.wf {f : Fmt} {d : Dim} (h : DimB f d) (h0 : NoNul d.name) : DimWF f d := ⟨h0, h.nameLen, h.size⟩

theorem vDim_bound (c : VCfg) (hs : c.strictSign = true) (f : Fmt) {s s' : Bytes} {d : Dim} {hu : Bool} {fl : VFlags}
    (h : vDim c f.version hu s = .ok ((d, fl), s')) : DimB f d := by
  obtain ⟨_, _, h1, h2, _⟩ := vDim_run h
  exact ⟨vName_bound c hs f h1, vNonNeg_bound c hs f h2⟩

theorem vArray_bound {α : Type} (c : VCfg) (hs : c.strictSign = true) (f : Fmt) {tag maxN : Nat} {errMax : VErr}
    {items : Nat → VP (List α × VFlags)} (P : α → Prop) {R : Bytes → α → VFlags → Bytes → Prop} {s s' : Bytes}
    {xs : List α} {fl : VFlags}
    (hseq : ∀ (n : Nat) (s0 s1 : Bytes) (ys : List α) (fl : VFlags), items n s0 = .ok ((ys, fl), s1) →
        Seq R s0 ys fl s1 ∧ ys.length = n)
    (hi : ∀ s x ok s1, R s x ok s1 → P x)
    (h : vArray c f.version tag maxN errMax items s = .ok ((xs, fl), s')) :
    (∀ x ∈ xs, P x) ∧ xs.length ≤ maxN ∧ xs.length < nnLim f := by
  obtain ⟨t, n, s1, s2, _, h2, hmax, hc⟩ := vArray_run h
  have hb := vNonNeg_bound c hs f h2
  by_cases hn : n = 0
  · rw [if_pos hn] at hc
    obtain ⟨rfl, _⟩ := hc
    rw [hn] at hb
    exact ⟨fun x hx => (nomatch hx), Nat.zero_le _, hb⟩
  · rw [if_neg hn] at hc
    obtain ⟨hxs, rfl⟩ := hseq _ _ _ _ _ hc.2
    exact ⟨hxs.all hi, hmax, hb⟩

structure AttB (f : Fmt) (a : Att) : Prop where
  nameLen : a.name.length < nnLim f
  typeOk  : a.xtype.okFor f = true
  nelems  : a.nelems < nnLim f
  value   : a.xvalue.length = a.nelems * a.xtype.size

theorem AttB.wf {f : Fmt} {a : Att} (h : AttB f a) (h0 : NoNul a.name) : AttWF f a :=
  ⟨h0, h.nameLen, h.typeOk, h.nelems, h.value⟩

theorem vAttr_bound (c : VCfg) (hs : c.strictSign = true) (f : Fmt) {s s' : Bytes} {a : Att} {fl : VFlags}
    (h : vAttr c f.version s = .ok ((a, fl), s')) : AttB f a := by
  obtain ⟨_, _, _, _, _, _, h1, h2, h3, h4, _⟩ := vAttr_run h
  exact ⟨vName_bound c hs f h1, (vType_word f).acc h2, vNonNeg_bound c hs f h3, rdBytes_len h4⟩

structure VarB (f : Fmt) (nd : Nat) (v : Var) : Prop where
  nameLen : v.name.length < nnLim f
  ndims   : v.dimids.length < nnLim f
  dimids  : ∀ id ∈ v.dimids, id < nd
  natts   : v.atts.length < nnLim f
  atts    : ∀ a ∈ v.atts, AttB f a
  typeOk  : v.xtype.okFor f = true
  vsize   : v.vsize < rawLim f
  begin   : v.begin < offLim f

theorem VarB.wf {f : Fmt} {nd : Nat} {v : Var} (h : VarB f nd v) (hnd : nd ≤ nnLim f) (h0 : NoNul v.name)
    (ha : ∀ a ∈ v.atts, NoNul a.name) : VarWF f v :=
  ⟨h0, h.nameLen, h.ndims, fun id hid => Nat.lt_of_lt_of_le (h.dimids id hid) hnd, h.natts,
    fun a m => (h.atts a m).wf (ha a m), h.typeOk, h.vsize, h.begin⟩

theorem vAttrArray_bound (c : VCfg) (hs : c.strictSign = true) (f : Fmt) {s s' : Bytes} {as : List Att} {fl : VFlags}
    (h : vAttrArray c f.version s = .ok ((as, fl), s')) : (∀ a ∈ as, AttB f a) ∧ as.length < nnLim f := by
  have := vArray_bound c hs f (AttB f) (vN_seq (vAttr c f.version))
    (fun _ _ _ _ ha => vAttr_bound c hs f ha) h
  exact ⟨this.1, this.2.2⟩

theorem vVar_bound (c : VCfg) (hs : c.strictSign = true) (hd : c.dimid64 = true) (f : Fmt) {nd : Nat} {s s' : Bytes}
    {v : Var} {fl : VFlags} (h : vVar c f.version nd s = .ok ((v, fl), s')) : VarB f nd v := by
  obtain ⟨_, _, _, _, _, _, _, _, _, h1, h2, _, h3, h4, h5, h6, h7, _⟩ := vVar_run h
  have hat := vAttrArray_bound c hs f h4
  exact ⟨vName_bound c hs f h1, vNonNeg_bound c hs f h2,
    (vN_seq _ _ _ _ _ _ h3).1.all (fun _ _ _ _ hx => vDimid_bound c hd f hx), hat.2, hat.1, (vType_word f).acc h5,
    rawLim_eq f ▸ (vVsize_word c f).lt h6, (vBegin_word c f).acc h7 (Or.inl hs)⟩

/-- With the repairs F4 and F6 every header the validator's reader returns fits the field widths of its format:
    it is `Encodable` as soon as its names hold no NUL byte and numrecs is not the STREAMING value. -/
theorem encodable_of_vBody (c : VCfg) (hs : c.strictSign = true) (hd : c.dimid64 = true) (f : Fmt) {s s' : Bytes}
    {h : Hdr} {fl : VFlags} (hb : vBody c f s = .ok ((h, fl), s')) (h0 : NamesNoNul h) (hnr : h.numrecs < nnLim h.fmt) :
    Encodable h := by
  obtain ⟨_, _, _, _, _, _, rfl, _, h2, h3, h4, _⟩ := vBody_run hb
  obtain ⟨hd0, hg0, hv0⟩ := h0
  have bd := vArray_bound c hs h.fmt (DimB h.fmt)
    (fun n => vDims_seq c h.fmt.version n false) (fun _ _ _ _ ⟨_, hx⟩ => vDim_bound c hs h.fmt hx) h2
  have bg := vAttrArray_bound c hs h.fmt h3
  have bv := vArray_bound c hs h.fmt (VarB h.fmt h.dims.length)
    (vN_seq (vVar c h.fmt.version h.dims.length)) (fun _ _ _ _ hv => vVar_bound c hs hd h.fmt hv) h4
  have hnd : h.dims.length ≤ nnLim h.fmt := Nat.le_trans bd.2.1 (by cases h.fmt <;> decide)
  exact ⟨hnr, bd.2.2, fun x hx => (bd.1 x hx).wf (hd0 x hx), bg.2, fun a ha => (bg.1 a ha).wf (hg0 a ha), bv.2.2,
    fun v hv => (bv.1 v hv).wf hnd (hv0 v hv).1 (hv0 v hv).2⟩

end PnVerif.Tools
