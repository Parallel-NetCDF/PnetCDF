import PnVerif.Model.Redef
/-
  C06 helper lemmas: the read/write laws of the byte-list file model and the loop invariants of
  `move_file_block` (one round = one block copy of the round's range; tail-first rounds = one
  block copy of the whole range when dst ≥ src).  Everything is stated for an arbitrary
  `ReadMode` (short count or full count with arbitrary bytes past the end of the file), hence in
  relational form: destination bytes whose source byte EXISTS in the file equal that source byte.
-/
namespace PnVerif.Redef

theorem rd_ge (f : File) (i : Nat) (h : f.length ≤ i) : rd f i = 0 := by
  unfold rd; simp [List.getD, List.getElem?_eq_none h]

theorem readAt_length_le (m : ReadMode) (f : File) (o c : Nat) : (readAt m f o c).length ≤ c := by
  cases m with
  | short => simp only [readAt, List.length_take, List.length_drop]; exact Nat.min_le_left _ _
  | full junk => simp [readAt]

theorem readAt_length_ge (m : ReadMode) (f : File) (o c : Nat) :
    min c (f.length - o) ≤ (readAt m f o c).length := by
  cases m with
  | short => simp [readAt]
  | full junk => simp only [readAt, List.length_map, List.length_range]; exact Nat.min_le_left _ _

theorem readAt_getD (m : ReadMode) (f : File) (o c k : Nat) (h : k < (readAt m f o c).length)
    (hk : o + k < f.length) : (readAt m f o c).getD k 0 = rd f (o + k) := by
  cases m with
  | short =>
    have hl : (readAt .short f o c).length = min c (f.length - o) := by simp [readAt]
    rw [hl] at h
    have hkc : k < c := by omega
    unfold readAt rd
    simp [List.getD, List.getElem?_drop, hkc]
  | full junk =>
    have hl : (readAt (.full junk) f o c).length = c := by simp [readAt]
    rw [hl] at h
    unfold readAt
    simp [List.getD, h, hk]

private theorem getD_pad (f : File) (n i : Nat) :
    (f ++ List.replicate n (0:UInt8))[i]?.getD 0 = f[i]?.getD 0 := by
  by_cases h : i < f.length
  · simp [List.getElem?_append_left h]
  · have h' : f.length ≤ i := by omega
    rw [List.getElem?_append_right h', List.getElem?_eq_none h']
    simp [List.getElem?_replicate]
    split <;> simp

theorem rd_writeAt (f : File) (o : Nat) (d : List UInt8) (i : Nat) :
    rd (writeAt f o d) i = if o ≤ i ∧ i < o + d.length then d.getD (i - o) 0 else rd f i := by
  unfold writeAt
  by_cases hd : d = []
  · simp [hd]; omega
  · simp only [List.isEmpty_iff, hd, if_false]
    unfold rd
    simp only [List.getD_eq_getElem?_getD]
    have hg : (f ++ List.replicate (o - f.length) (0:UInt8)).length ≥ o := by simp; omega
    generalize hgd : f ++ List.replicate (o - f.length) (0:UInt8) = g at hg
    have hgi : ∀ j : Nat, (g[j]?.getD 0 : UInt8) = (f[j]?.getD 0 : UInt8) := by
      intro j; rw [← hgd]; exact getD_pad f _ j
    have htl : (List.take o g).length = o := by simp; omega
    by_cases h1 : i < o
    · rw [if_neg fun h => Nat.not_le_of_lt h1 h.1, List.append_assoc, List.getElem?_append_left (htl.symm ▸ h1),
        List.getElem?_take, if_pos h1]
      exact hgi i
    · have h1 := Nat.le_of_not_lt h1
      by_cases h2 : i < o + d.length
      · rw [if_pos ⟨h1, h2⟩, List.append_assoc, List.getElem?_append_right (htl.symm ▸ h1), htl,
          List.getElem?_append_left (Nat.sub_lt_left_of_lt_add h1 h2)]
      · have h2 := Nat.le_of_not_lt h2
        rw [if_neg fun h => Nat.not_le_of_lt h.2 h2,
          List.getElem?_append_right (by rw [List.length_append, htl]; exact h2), List.length_append, htl,
          List.getElem?_drop, Nat.add_sub_cancel' h2]
        exact hgi i

theorem length_writeAt_ge (f : File) (o : Nat) (d : List UInt8) : f.length ≤ (writeAt f o d).length := by
  unfold writeAt
  split
  · exact Nat.le_refl _
  · simp only [List.length_append, List.length_take, List.length_drop, List.length_replicate]
    omega

/-- whichever of the writes `(off w, dat w)` lands on byte `b` last, it carries `x` -/
theorem rd_foldl_writeAt_agree {α : Type} (off : α → Nat) (dat : α → List UInt8) (x : UInt8) (b : Nat) :
    ∀ (ws : List α) (f : File),
      (∀ w ∈ ws, off w ≤ b ∧ b < off w + (dat w).length → (dat w).getD (b - off w) 0 = x) →
      (rd f b = x ∨ ∃ w ∈ ws, off w ≤ b ∧ b < off w + (dat w).length) →
      rd (ws.foldl (fun g w => writeAt g (off w) (dat w)) f) b = x := by
  intro ws
  induction ws with
  | nil =>
    intro f _ h
    rcases h with h | ⟨w, hw, _⟩
    · exact h
    · cases hw
  | cons w ws ih =>
    intro f hval h
    apply ih _ (fun w' hw' => hval w' (List.mem_cons_of_mem _ hw'))
    rw [rd_writeAt]
    by_cases hc : off w ≤ b ∧ b < off w + (dat w).length
    · rw [if_pos hc]
      exact Or.inl (hval w List.mem_cons_self hc)
    · rw [if_neg hc]
      rcases h with h | ⟨w', hw', hc'⟩
      · exact Or.inl h
      · cases hw' with
        | head => exact absurd hc' hc
        | tail _ hm => exact Or.inr ⟨w', hm, hc'⟩

theorem rd_foldl_writeAt_frame {α : Type} (off : α → Nat) (dat : α → List UInt8) (b : Nat) :
    ∀ (ws : List α) (f : File), (∀ w ∈ ws, ¬ (off w ≤ b ∧ b < off w + (dat w).length)) →
      rd (ws.foldl (fun g w => writeAt g (off w) (dat w)) f) b = rd f b := by
  intro ws
  induction ws with
  | nil => intro f _; rfl
  | cons w ws ih =>
    intro f h
    rw [List.foldl_cons, ih _ (fun w' hw' => h w' (List.mem_cons_of_mem _ hw')), rd_writeAt,
      if_neg (h w List.mem_cons_self)]

theorem length_foldl_writeAt_ge {α : Type} (off : α → Nat) (dat : α → List UInt8) :
    ∀ (ws : List α) (f : File), f.length ≤ (ws.foldl (fun g w => writeAt g (off w) (dat w)) f).length := by
  intro ws
  induction ws with
  | nil => intro f; exact Nat.le_refl _
  | cons w ws ih => intro f; exact Nat.le_trans (length_writeAt_ge f _ _) (ih _)

theorem bufcount_eq_min (nprocs chunk nbytes r : Nat) (hc : 0 < chunk) (hr : r < nprocs) :
    bufcount nprocs chunk nbytes r
      = min chunk ((nbytes - nextNbytes nprocs chunk nbytes) - r * chunk) := by
  unfold bufcount nextNbytes
  split
  · have hdm := Nat.div_add_mod nbytes chunk
    have hml := Nat.mod_lt nbytes hc
    rw [Nat.mul_comm] at hdm
    generalize nbytes / chunk = q at hdm ⊢
    generalize nbytes % chunk = mm at hdm hml ⊢
    dsimp only
    rcases Nat.lt_trichotomy r q with h | h | h
    · have := Nat.mul_le_mul_right chunk h
      rw [Nat.succ_mul] at this
      rw [if_neg (by omega), if_neg (by omega)]
      omega
    · subst h
      rw [if_neg (by omega), if_pos rfl]
      omega
    · have := Nat.mul_le_mul_right chunk h
      rw [Nat.succ_mul] at this
      rw [if_pos h]
      omega
  · have := Nat.mul_le_mul_right chunk hr
    rw [Nat.succ_mul] at this
    have := Nat.mul_comm chunk nprocs
    omega
theorem round_len (nprocs chunk nbytes : Nat) :
    nextNbytes nprocs chunk nbytes ≤ nbytes ∧
    nbytes - nextNbytes nprocs chunk nbytes ≤ nprocs * chunk := by
  unfold nextNbytes
  have hcm : chunk * nprocs = nprocs * chunk := Nat.mul_comm _ _
  split <;> omega

/-- the effect "block copy of `[src+lo, src+hi)` to `[dst+lo, dst+hi)`" in relational form -/
def Copied (f f' : File) (dst src lo hi : Nat) : Prop :=
  (∀ i, lo ≤ i → i < hi → src + i < f.length → rd f' (dst + i) = rd f (src + i)) ∧
  (∀ j, (j < dst + lo ∨ dst + hi ≤ j) → rd f' j = rd f j) ∧
  f.length ≤ f'.length

/-- pieces of `chunk` bytes tile `[0, L)` -/
theorem tile_mem (chunk L t : Nat) (hc : 0 < chunk) (ht : t < L) :
    ∃ q o, t = q * chunk + o ∧ o < min chunk (L - q * chunk) := by
  refine ⟨t / chunk, t % chunk, ?_, ?_⟩
  · rw [Nat.mul_comm]; exact (Nat.div_add_mod t chunk).symm
  · have h1 := Nat.div_add_mod t chunk
    have h2 := Nat.mod_lt t hc
    rw [Nat.mul_comm] at h1
    omega

/-- one round = a block copy of the round's range: every rank writes what it read at the same relative
    place, and the ranks' ranges tile the range of the round -/
theorem copied_roundFile (m : ReadMode) (nprocs chunk : Nat) (f : File) (dst src nbytes : Nat)
    (hc : 0 < chunk) :
    Copied f (roundFile m nprocs chunk f dst src nbytes (nextNbytes nprocs chunk nbytes))
      dst src (nextNbytes nprocs chunk nbytes) nbytes := by
  unfold roundFile
  rw [List.foldl_map]
  obtain ⟨hl1, hl2⟩ := round_len nprocs chunk nbytes
  have hcnt := fun r (hr : r < nprocs) => bufcount_eq_min nprocs chunk nbytes r hc hr
  generalize nextNbytes nprocs chunk nbytes = nb at *
  refine ⟨fun i h1 h2 hs => ?_, fun j hj => ?_, length_foldl_writeAt_ge _ _ _ f⟩
  · apply rd_foldl_writeAt_agree (fun r => dst + nb + r * chunk)
    · intro r _ ⟨hr1, hr2⟩
      obtain ⟨k, hk⟩ := Nat.exists_eq_add_of_le hr1
      rw [hk] at hr2 ⊢
      rw [Nat.add_sub_cancel_left]
      rw [readAt_getD m f _ _ _ (Nat.lt_of_add_lt_add_left hr2) (by omega)]
      congr 1
      omega
    · -- the rank whose range holds byte `i` of the block
      obtain ⟨t, rfl⟩ := Nat.exists_eq_add_of_le h1
      obtain ⟨q, o, rfl, ho⟩ := tile_mem chunk (nbytes - nb) t hc (by omega)
      have hq : q < nprocs := Nat.lt_of_mul_lt_mul_right (a := chunk) (by omega)
      have hlen : o < (readAt m f (src + nb + q * chunk) (bufcount nprocs chunk nbytes q)).length :=
        Nat.lt_of_lt_of_le (Nat.lt_min.mpr ⟨(hcnt q hq).symm ▸ ho, by omega⟩) (readAt_length_ge m f _ _)
      exact Or.inr ⟨q, List.mem_range.mpr hq, by omega, by dsimp only; omega⟩
  · apply rd_foldl_writeAt_frame (fun r => dst + nb + r * chunk)
    intro r hr
    have : (readAt m f (src + nb + r * chunk) (bufcount nprocs chunk nbytes r)).length ≤ nbytes - nb - r * chunk :=
      Nat.le_trans (readAt_length_le m f _ _) (hcnt r (List.mem_range.mp hr) ▸ Nat.min_le_right _ _)
    dsimp only
    omega

/-- tail-first rounds of block copies = one block copy (needs `src ≤ dst`) -/
theorem copied_moveLoop (m : ReadMode) (nprocs chunk dst src : Nat) (hp : 0 < nprocs) (hds : src ≤ dst)
    (f : File) (n : Nat) (hc : 0 < n → 0 < chunk) :
    Copied f (moveLoop m nprocs chunk dst src f n) dst src 0 n := by
  induction n using Nat.strongRecOn generalizing f with
  | _ n ih =>
    unfold moveLoop
    by_cases h0 : n = 0
    · rw [dif_pos (Or.inl h0), h0]
      exact ⟨fun i _ h2 => absurd h2 (Nat.not_lt_zero _), fun j _ => rfl, Nat.le_refl _⟩
    · have hc := hc (Nat.pos_of_ne_zero h0)
      rw [dif_neg (by omega)]
      have hlt : nextNbytes nprocs chunk n < n := by
        have : 0 < chunk * nprocs := Nat.mul_pos hc hp
        unfold nextNbytes; split <;> omega
      obtain ⟨r1, r2, r3⟩ := copied_roundFile m nprocs chunk f dst src n hc
      obtain ⟨l1, l2, l3⟩ := ih _ hlt (roundFile m nprocs chunk f dst src n (nextNbytes nprocs chunk n))
        (fun _ => hc)
      refine ⟨fun i _ h2 hs => ?_, fun j hj => ?_, Nat.le_trans r3 l3⟩
      · by_cases hA : i < nextNbytes nprocs chunk n
        · -- a byte still to be moved was not overwritten by this round, which wrote at `dst + nb` and above
          have hbelow : src + i < dst + nextNbytes nprocs chunk n := Nat.add_lt_add_of_le_of_lt hds hA
          rw [l1 i (Nat.zero_le _) hA (by omega), r2 _ (Or.inl hbelow)]
        · rw [l2 _ (by omega), r1 i (by omega) h2 hs]
      · rw [l2 j (by omega), r2 j (by omega)]
end PnVerif.Redef
