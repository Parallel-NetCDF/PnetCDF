import PnVerif.Model.MetaTab
/-
  C07 helper lemmas: the lookup-table invariant and its preservation by every table operation,
  for every hash function and every table size ≥ 1.
-/
namespace PnVerif.Meta

/-- number of occurrences of `id` in bucket `k` -/
def cnt (T : Table) (k id : Nat) : Nat := (bucket T k).count id

/-- The table invariant: the table has `size` buckets and every id `< n` occurs exactly once, in
    bucket `key (name id)`, and nowhere else; ids `≥ n` occur nowhere. -/
structure TabInv (h : Nat → Name → Nat) (size : Nat) (names : List Name) (T : Table) : Prop where
  len : T.length = size
  cnt : ∀ k id, cnt T k id =
          if hid : id < names.length then (if key h size names[id] = k then 1 else 0) else 0

theorem key_lt (h : Nat → Name → Nat) {size : Nat} (hs : 0 < size) (nm : Name) : key h size nm < size :=
  Nat.mod_lt _ hs

section
variable {h : Nat → Name → Nat} {size : Nat} {names : List Name} {T : Table}

theorem home_eq (h : Nat → Name → Nat) (size : Nat) (names : List Name) (k id : Nat) :
    (if hid : id < names.length then (if key h size names[id] = k then 1 else 0) else 0) =
      if (names[id]?).map (key h size) = some k then 1 else 0 := by
  by_cases hid : id < names.length <;> simp [hid]

/-- `TabInv.cnt` through `getElem?`, for which append, set and eraseIdx have lemmas (`Meta.cnt`: inside the
    namespace `TabInv`, `cnt` is the field) -/
theorem TabInv.cnt' (inv : TabInv h size names T) (k id : Nat) :
    Meta.cnt T k id = if (names[id]?).map (key h size) = some k then 1 else 0 := by
  rw [inv.cnt, home_eq]

theorem TabInv.mk' (len : T.length = size)
    (hc : ∀ k id, Meta.cnt T k id = if (names[id]?).map (key h size) = some k then 1 else 0) :
    TabInv h size names T :=
  ⟨len, fun k id => by rw [hc, home_eq]⟩

theorem bucket_modify (T : Table) (k k' : Nat) (f : List Nat → List Nat) (hk : k < T.length) :
    bucket (T.modify k f) k' = if k = k' then f (bucket T k) else bucket T k' := by
  unfold bucket
  rw [List.getElem?_modify]
  by_cases hkk : k = k'
  · subst hkk
    simp [hk]
  · simp [hkk]

theorem bucket_ge (T : Table) (k : Nat) (hk : T.length ≤ k) : bucket T k = [] := by
  unfold bucket
  rw [List.getElem?_eq_none hk]; rfl

theorem emptyTable_inv (h : Nat → Name → Nat) (size : Nat) : TabInv h size [] (emptyTable size) :=
  .mk' List.length_replicate fun k id => by
    have : bucket (emptyTable size) k = [] := by
      unfold bucket emptyTable
      rw [List.getElem?_replicate]
      split <;> rfl
    simp [cnt, this]

theorem cnt_hashInsert {nm : Name} (hk : key h size nm < T.length) (j k id : Nat) :
    cnt (hashInsert h size T nm j) k id = cnt T k id + if key h size nm = k ∧ j = id then 1 else 0 := by
  unfold cnt hashInsert
  rw [bucket_modify _ _ _ _ hk]
  by_cases hkk : key h size nm = k
  · simp [hkk, List.count_append, List.count_singleton]
  · simp [hkk]

/-- ncmpio_hash_insert keeps the invariant when the new object gets id `n` -/
theorem hashInsert_inv (hs : 0 < size) (inv : TabInv h size names T) (nm : Name) :
    TabInv h size (names ++ [nm]) (hashInsert h size T nm names.length) := by
  refine .mk' (by simp [hashInsert, inv.len]) fun k id => ?_
  rw [cnt_hashInsert (inv.len ▸ key_lt h hs nm), inv.cnt', List.getElem?_append]
  -- an old id keeps its name, the new id `n` has name `nm`, beyond it nothing is defined
  rcases Nat.lt_trichotomy id names.length with hlt | rfl | hgt
  · simp [hlt, Nat.ne_of_gt hlt]
  · simp
  · have : [nm][id - names.length]? = none := List.getElem?_eq_none (by simp; omega)
    simp [Nat.lt_asymm hgt, Nat.ne_of_lt hgt, this]

theorem mem_bucket_iff (inv : TabInv h size names T) (k id : Nat) :
    id ∈ bucket T k ↔ ∃ hid : id < names.length, key h size names[id] = k := by
  rw [← List.count_pos_iff, ← cnt, inv.cnt]
  by_cases hid : id < names.length
  · by_cases hk : key h size names[id] = k <;> simp [hid, hk]
  · simp [hid]

theorem cnt_erase {k₀ : Nat} (hk : k₀ < T.length) (id k i : Nat) :
    cnt (T.modify k₀ (·.erase id)) k i = cnt T k i - if k₀ = k ∧ id = i then 1 else 0 := by
  unfold cnt
  rw [bucket_modify _ _ _ _ hk]
  by_cases hkk : k₀ = k
  · simp [hkk, List.count_erase]
  · simp [hkk]

/-- the search for `id` in its bucket (the `assert` / NC_ENOTATT of the C) cannot fail on a defined id -/
theorem hashRemove_spec (hs : 0 < size) (inv : TabInv h size names T) (id : Nat) (hid : id < names.length) :
    ∃ T', hashRemove h size T names[id] id = some T' ∧ T'.length = size ∧
      ∀ k i, cnt T' k i = if i = id then 0 else cnt T k i := by
  have hmem : id ∈ bucket T (key h size names[id]) := (mem_bucket_iff inv _ _).mpr ⟨hid, rfl⟩
  refine ⟨T.modify (key h size names[id]) (·.erase id), by simp [hashRemove, hmem], by simp [inv.len],
    fun k i => ?_⟩
  rw [cnt_erase (inv.len ▸ key_lt h hs _)]
  by_cases hi : i = id
  · subst hi
    rw [inv.cnt, dif_pos hid]
    split <;> simp [*]
  · simp [hi, Ne.symm hi]

/-- "update all IDs that are > id" of ncmpio_hash_delete: `y` stands where `y + 1` stood if `y ≥ d`, else where
    `y` stood; the two cannot meet because `d` has been removed -/
theorem count_map_dec (l : List Nat) (d y : Nat) (hd : d ∉ l) :
    (l.map (fun j => if j > d then j - 1 else j)).count y = l.count (if y ≥ d then y + 1 else y) := by
  induction l with
  | nil => simp
  | cons a r ih =>
    have hda : d ≠ a := fun e => hd (by simp [e])
    have hdr : d ∉ r := fun e => hd (by simp [e])
    have hb : ((if a > d then a - 1 else a) == y) = (a == (if y ≥ d then y + 1 else y)) := by
      rw [Bool.eq_iff_iff]; simp only [beq_iff_eq]
      split <;> split <;> omega
    simp only [List.map_cons, List.count_cons, ih hdr, hb]

theorem bucket_map (T : Table) (f : List Nat → List Nat) (hf : f [] = []) (k : Nat) :
    bucket (T.map f) k = f (bucket T k) := by
  unfold bucket
  rw [List.getElem?_map]
  cases T[k]? <;> simp [hf]

/-- ncmpio_hash_delete keeps the invariant for the array with element `id` removed -/
theorem hashDelete_inv (hs : 0 < size) (inv : TabInv h size names T) (id : Nat) (hid : id < names.length) :
    ∃ T', hashDelete h size T names[id] id = some T' ∧ TabInv h size (names.eraseIdx id) T' := by
  obtain ⟨T1, h1, hlen, hc1⟩ := hashRemove_spec hs inv id hid
  refine ⟨T1.map (·.map fun j => if j > id then j - 1 else j), by simp [hashDelete, h1],
    .mk' (by simp [hlen]) fun k y => ?_⟩
  have hnot : id ∉ bucket T1 k := List.count_eq_zero.mp (by simpa [cnt] using hc1 k id)
  rw [cnt, bucket_map _ _ rfl, count_map_dec _ _ _ hnot, ← cnt, hc1, inv.cnt', List.getElem?_eraseIdx]
  -- `names.eraseIdx id` reads slot `y + 1` for `y ≥ id` and slot `y` below, as the shifted table does
  by_cases hy : y ≥ id
  · simp [hy, Nat.not_lt.mpr hy, Nat.ne_of_gt (Nat.lt_succ_of_le hy)]
  · simp [hy, Nat.lt_of_not_ge hy, Nat.ne_of_lt (Nat.lt_of_not_ge hy)]

/-- ncmpio_hash_replace / ncmpio_update_name_lookup_table keep the invariant for the renamed array -/
theorem hashReplace_inv (hs : 0 < size) (inv : TabInv h size names T) (id : Nat) (hid : id < names.length)
    (new : Name) :
    ∃ T', hashReplace h size T names[id] new id = some T' ∧ TabInv h size (names.set id new) T' := by
  obtain ⟨T1, h1, hlen, hc1⟩ := hashRemove_spec hs inv id hid
  refine ⟨hashInsert h size T1 new id, by simp [hashReplace, h1], .mk' (by simp [hashInsert, hlen]) fun k y => ?_⟩
  rw [cnt_hashInsert (hlen ▸ key_lt h hs new), hc1, inv.cnt', List.getElem?_set]
  by_cases hy : id = y
  · simp [← hy, hid]
  · simp [hy, Ne.symm hy]

end

/-- ncmpio_hash_table_copy reproduces a table of the right length exactly -/
theorem tableCopy_eq (T : Table) (size : Nat) (hl : T.length = size) : tableCopy T size = T := by
  subst hl
  apply List.ext_getElem?
  intro i
  unfold tableCopy bucket
  rw [List.getElem?_map]
  by_cases hi : i < T.length
  · simp [hi]
  · simp [Nat.le_of_not_lt hi]

theorem lookup_eq_findIdx? (names : List Name) (nm : Name) : lookup names nm = names.findIdx? (· == nm) := by
  induction names with
  | nil => rfl
  | cons x r ih => simp [lookup, List.findIdx?_cons, ih]

theorem lookup_some_iff (names : List Name) (nm : Name) (i : Nat) :
    lookup names nm = some i ↔
      ∃ hi : i < names.length, names[i] = nm ∧ ∀ j (hj : j < i), names[j]'(by omega) ≠ nm := by
  simp [lookup_eq_findIdx?, List.findIdx?_eq_some_iff_getElem]

theorem lookup_none_iff (names : List Name) (nm : Name) : lookup names nm = none ↔ nm ∉ names := by
  simp only [lookup_eq_findIdx?, List.findIdx?_eq_none_iff, beq_eq_false_iff_ne]
  exact ⟨fun hne hm => hne nm hm rfl, fun hn x hx e => hn (e ▸ hx)⟩

theorem lookup_lt {names : List Name} {nm : Name} {i : Nat} (h : lookup names nm = some i) :
    i < names.length := ((lookup_some_iff names nm i).mp h).1

theorem lookup_getElem {names : List Name} {nm : Name} {i : Nat} (h : lookup names nm = some i) :
    names[i]'(lookup_lt h) = nm := ((lookup_some_iff names nm i).mp h).2.1

theorem lookup_of_nodup {names : List Name} (nd : names.Nodup) (i : Nat) (hi : i < names.length) :
    lookup names names[i] = some i :=
  (lookup_some_iff ..).mpr ⟨hi, rfl, fun _ hj e =>
    Nat.ne_of_lt hj ((List.getElem_inj (h₀ := Nat.lt_trans hj hi) (h₁ := hi) nd).mp e)⟩

theorem find?_unique {l : List Nat} {p : Nat → Bool} {a : Nat} (hm : a ∈ l) (hp : p a = true)
    (hu : ∀ b ∈ l, p b = true → b = a) : l.find? p = some a := by
  cases hf : l.find? p with
  | none => exact absurd hp (List.find?_eq_none.mp hf a hm)
  | some b => rw [hu b (List.mem_of_find?_eq_some hf) (List.find?_some hf)]

variable {α : Type} [Named α] {h : Nat → Name → Nat} {size : Nat} {A : NArr α}

/-- the full invariant of an array + table pair -/
def NArr.Inv (h : Nat → Name → Nat) (size : Nat) (A : NArr α) : Prop :=
  TabInv h size A.names A.tab ∧ A.names.Nodup

theorem NArr.names_length (A : NArr α) : A.names.length = A.items.length := List.length_map _

theorem NArr.getElem_names (A : NArr α) {id : Nat} (hid : id < A.names.length) :
    A.names[id] = Named.name (A.items[id]'(A.names_length ▸ hid)) := List.getElem_map _

theorem NArr.find_eq (h : Nat → Name → Nat) (size : Nat) (A : NArr α) (nm : Name) :
    A.find h size nm = if A.items.length = 0 then none
      else (bucket A.tab (key h size nm)).find? (fun id => decide (A.names[id]? = some nm)) := by
  unfold NArr.find NArr.names
  congr 2
  funext id
  rw [List.getElem?_map]
  cases A.items[id]? <;> simp

/-- property `lookup_by_name_eq_spec` of Props/C07.lean -/
theorem NArr.find_eq_lookup (inv : A.Inv h size) (nm : Name) : A.find h size nm = lookup A.names nm := by
  obtain ⟨ti, nd⟩ := inv
  rw [NArr.find_eq]
  cases hl : lookup A.names nm with
  | none =>
    have hnm := (lookup_none_iff _ _).mp hl
    split
    · rfl
    · exact List.find?_eq_none.mpr fun id _ hid => hnm (List.mem_of_getElem? (of_decide_eq_true hid))
  | some i =>
    have hi := lookup_lt hl
    have he : A.names[i]? = some nm := by rw [List.getElem?_eq_getElem hi, lookup_getElem hl]
    rw [if_neg (fun h0 => by rw [A.names_length, h0] at hi; cases hi)]
    refine find?_unique ((mem_bucket_iff ti _ _).mpr ⟨hi, by rw [lookup_getElem hl]⟩) (decide_eq_true he)
      fun b _ hb => ((List.getElem?_inj hi nd).mp (he.trans (of_decide_eq_true hb).symm)).symm

/-- property `name_id_agree` of Props/C07.lean -/
theorem NArr.find_name (inv : A.Inv h size) (id : Nat) (hid : id < A.items.length) :
    A.find h size (Named.name A.items[id]) = some id := by
  rw [NArr.find_eq_lookup inv, ← A.getElem_names (A.names_length ▸ hid)]
  exact lookup_of_nodup inv.2 id _

theorem NArr.empty_inv (h : Nat → Name → Nat) (size : Nat) : (NArr.empty size : NArr α).Inv h size :=
  ⟨emptyTable_inv h size, List.nodup_nil⟩

theorem NArr.push_names (h : Nat → Name → Nat) (size : Nat) (A : NArr α) (x : α) :
    (A.push h size x).names = A.names ++ [Named.name x] := by simp [NArr.push, NArr.names]

theorem NArr.push_inv (hs : 0 < size) (inv : A.Inv h size) (x : α) (fresh : Named.name x ∉ A.names) :
    (A.push h size x).Inv h size := by
  unfold NArr.Inv
  rw [NArr.push_names]
  have hT := hashInsert_inv hs inv.1 (Named.name x)
  rw [A.names_length] at hT
  refine ⟨hT, List.nodup_append.mpr ⟨inv.2, by simp, ?_⟩⟩
  intro a ha b hb e
  exact fresh (List.mem_singleton.mp hb ▸ e ▸ ha)

theorem nodup_set {names : List Name} (nd : names.Nodup) (id : Nat) (new : Name) (fresh : new ∉ names) :
    (names.set id new).Nodup := by
  by_cases h : id < names.length
  · rw [List.nodup_iff_count] at nd ⊢
    intro a
    have := nd a
    rw [List.count_set h]
    by_cases hn : new = a
    · have : names.count a = 0 := List.count_eq_zero.mpr (hn ▸ fresh)
      simp [hn, this]
    · simp [hn]; omega
  · rwa [List.set_eq_of_length_le (Nat.le_of_not_lt h)]

theorem NArr.rename_spec (hs : 0 < size) (inv : A.Inv h size) {id : Nat} {x : α} (hx : A.items[id]? = some x)
    (new : Name) (fresh : new ∉ A.names) :
    ∃ T, A.rename h size id new = some ⟨A.items.set id (Named.setName x new), T⟩ ∧
      NArr.Inv h size ⟨A.items.set id (Named.setName x new), T⟩ := by
  obtain ⟨hid, rfl⟩ := List.getElem?_eq_some_iff.mp hx
  obtain ⟨T, hT, hinv⟩ := hashReplace_inv hs inv.1 id (A.names_length ▸ hid) new
  rw [A.getElem_names] at hT
  refine ⟨T, by simp [NArr.rename, hx, hT], ?_⟩
  unfold NArr.Inv NArr.names
  rw [List.map_set, Named.name_setName]
  exact ⟨hinv, nodup_set inv.2 id new fresh⟩

theorem map_eraseIdx' {β γ : Type} (f : β → γ) (l : List β) (i : Nat) :
    (l.eraseIdx i).map f = (l.map f).eraseIdx i := by
  induction l generalizing i with
  | nil => simp
  | cons x r ih => cases i with
    | zero => simp
    | succ j => simp [ih]

theorem NArr.del_spec (hs : 0 < size) (inv : A.Inv h size) (id : Nat) (hid : id < A.names.length) :
    ∃ T, A.del h size id = some ⟨A.items.eraseIdx id, T⟩ ∧ NArr.Inv h size ⟨A.items.eraseIdx id, T⟩ := by
  obtain ⟨T, hT, hinv⟩ := hashDelete_inv hs inv.1 id hid
  rw [A.getElem_names] at hT
  refine ⟨T, by simp [NArr.del, List.getElem?_eq_getElem (A.names_length ▸ hid), hT], ?_⟩
  unfold NArr.Inv NArr.names
  rw [map_eraseIdx']
  exact ⟨hinv, inv.2.eraseIdx id⟩

theorem NArr.update_inv (inv : A.Inv h size) (id : Nat) (f : α → α)
    (hf : ∀ a, Named.name (f a) = Named.name a) : (A.update id f).Inv h size := by
  have : (A.update id f).names = A.names := by
    apply List.ext_getElem?
    intro i
    simp only [NArr.update, NArr.names, List.getElem?_map, List.getElem?_modify]
    cases A.items[i]? with
    | none => rfl
    | some a => by_cases hi : id = i <;> simp [hi, hf]
  unfold NArr.Inv
  rw [this]
  exact inv

theorem NArr.dup_eq (inv : A.Inv h size) : A.dup size = A := by
  simp [NArr.dup, tableCopy_eq _ _ inv.1.len]

theorem NArr.dup_inv {h : Nat → Name → Nat} {size : Nat} {A : NArr α} (inv : A.Inv h size) :
    (A.dup size).Inv h size := by rw [NArr.dup_eq inv]; exact inv

theorem NArr.foldl_push_items (xs : List α) (A : NArr α) :
    (xs.foldl (fun A x => A.push h size x) A).items = A.items ++ xs := by
  induction xs generalizing A with
  | nil => simp
  | cons x r ih => rw [List.foldl_cons, ih]; simp [NArr.push]

theorem NArr.ofList_items (h : Nat → Name → Nat) (size : Nat) (xs : List α) :
    (NArr.ofList h size xs).items = xs := by
  simp [NArr.ofList, NArr.foldl_push_items, NArr.empty]

theorem NArr.foldl_push_inv (hs : 0 < size) (xs : List α) (A : NArr α) (inv : A.Inv h size)
    (nd : (A.names ++ xs.map Named.name).Nodup) : (xs.foldl (fun A x => A.push h size x) A).Inv h size := by
  induction xs generalizing A with
  | nil => exact inv
  | cons x r ih =>
    have fresh : Named.name x ∉ A.names := fun hm =>
      (List.nodup_append.mp nd).2.2 _ hm (Named.name x) (by simp) rfl
    exact ih (A.push h size x) (NArr.push_inv hs inv x fresh)
      (by rw [NArr.push_names]; simpa [List.append_assoc] using nd)

/-- populate-at-open: the table built from a duplicate-free array satisfies the invariant -/
theorem NArr.ofList_inv (hs : 0 < size) (xs : List α) (nd : (xs.map Named.name).Nodup) :
    (NArr.ofList h size xs).Inv h size :=
  NArr.foldl_push_inv hs xs (NArr.empty size) (NArr.empty_inv h size) (by simpa [NArr.empty, NArr.names] using nd)

end PnVerif.Meta
