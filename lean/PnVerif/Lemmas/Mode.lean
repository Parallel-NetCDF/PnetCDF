import PnVerif.Spec.ModeSpec
/-
  C14 — the reachable-state invariant of the two-layer mode machine (`ModeInv`) and its two
  shapes (`Core`); what can be read off the `if` tree of `step` without any invariant
  (`step_noop`, `step_frame`, `step_multi`); the simp set that unfolds model and specification
  for the case analyses of Props/C14.lean.
-/
namespace PnVerif.ModeLemmas
open PnVerif.Mode PnVerif.ModeSpec

/-- What holds in every state the library can reach (proved below by induction over call
    histories).  It relates the dispatcher word `d` to the driver word `n`:
    * RDONLY and DEF agree bit for bit;
    * INDEP agrees *in data mode*; in define mode the driver bit is clear while the dispatcher bit
      may be stale (ncmpi_redef sets DEF but does not clear INDEP; every dispatcher test reads DEF
      first, and ncmpi_enddef clears both);
    * the driver word never has DEF and INDEP together; a read-only file is never in define mode
      and has no pending put; CREATE (driver) implies define mode entered by create (`old` unset);
      the dispatcher's CREATE bit is never cleared (nothing reads it);
      `old` is set exactly in a define mode entered by redef — these are the `assert`s of
      ncmpio_abort / ncmpio__enddef;
    * pending bput requests are put requests and need the attached buffer. -/
structure ModeInv (s : State) : Prop where
  cl   : s.opened = false → s = closed
  rd   : s.opened = true → s.d.rdonly = s.n.rdonly
  df   : s.opened = true → s.d.indef = s.n.indef
  ind  : s.opened = true → s.n.indef = false → s.d.indep = s.n.indep
  one  : s.opened = true → s.n.indef = true → s.n.indep = false
  ro   : s.opened = true → s.n.rdonly = true → s.n.indef = false ∧ s.nPut = 0
  cr   : s.opened = true → s.n.create = true → s.n.indef = true ∧ s.old = false
  dcr  : s.opened = true → s.n.create = true → s.d.create = true
  od   : s.opened = true → s.old = true → s.n.indef = true
  rdf  : s.opened = true → s.n.indef = true → s.n.create = false → s.old = true
  bp   : s.nBput ≤ s.nPut
  ab   : 0 < s.nBput → s.abuf = true

/-- the implementation's `x_len_NC_attrV` is the format's "values padded to 4 bytes" -/
theorem xlen_eq_headerBytes (t : XT) (n : Nat) : xlen t n = headerBytes t n := by
  -- the 2-byte case: rounding 2n up to a multiple of 4 adds 2 exactly when n is odd
  cases t <;> simp only [xlen, headerBytes, elemSize] <;> omega

/-! ### The shape of `step`

`step` is a tree of `if`s whose leaves are either `ret s e` (nothing happened) or a result that
reports NC_NOERR.  Two facts are read off that shape alone, with no invariant: a call that reports
an error has done nothing (`step_noop`), and only the mode calls touch what the mode tests read
(`step_frame`).  Both proofs descend through the tree with the `_ite` lemma of the predicate. -/

def Noop (s : State) (o : Out) : Prop :=
  o.err ≠ .noerr → o.st = s ∧ o.wr = false ∧ o.del = false

theorem noop_ret (s : State) (e : Err) : Noop s (ret s e) := fun _ => ⟨rfl, rfl, rfl⟩
theorem noop_ok {s : State} {o : Out} (h : o.err = .noerr) : Noop s o := fun he => absurd h he
theorem noop_ite {s : State} {c : Prop} [Decidable c] {a b : Out} (ha : Noop s a) (hb : Noop s b) :
    Noop s (if c then a else b) := by split <;> assumption
/-- the dispatcher's `if (err != NC_NOERR) return err;` after the driver call `o` -/
theorem noop_guard {s : State} {o o' : Out} (h : Noop s o) (h' : o'.err = o.err) :
    Noop s (if o.err != .noerr then o else o') := by
  split
  · exact h
  · rename_i hc
    exact noop_ok (h'.trans (by simpa using hc))

/-- descends through an `if` tree: every leaf is `ret s e` or reports NC_NOERR -/
macro "noop_leaves" : tactic =>
  `(tactic| repeat' first | apply noop_ite | exact noop_ret _ _ | exact noop_ok rfl)

theorem step_noop (cfg : Cfg) (s : State) (c : Call) (hc : c ≠ .close ∧ c ≠ .abort) : Noop s (step cfg s c) := by
  unfold step
  refine noop_ite (noop_ret _ _) ?_
  cases c
  case close => exact absurd rfl hc.1
  case abort => exact absurd rfl hc.2
  case enddef => exact noop_ite (noop_ret _ _) (noop_guard (o := Drv.enddef s) (noop_ok rfl) rfl)
  case enddefArgs =>
    exact noop_ite (noop_ret _ _) (noop_ite (noop_ret _ _) (noop_guard (o := Drv.enddef s) (noop_ok rfl) rfl))
  case redef =>
    exact noop_ite (noop_ret _ _) (noop_ite (noop_ret _ _) (noop_guard (o := Drv.redef s) (noop_ok rfl) rfl))
  case beginIndep => exact noop_guard (o := Drv.beginIndep s) (by unfold Drv.beginIndep; noop_leaves) rfl
  case endIndep => exact noop_guard (o := Drv.endIndep s) (by unfold Drv.endIndep; noop_leaves) rfl
  case post k _ _ _ _ _ => cases k <;> noop_leaves
  all_goals
    dsimp only [Drv.syncNumrecs, Drv.sync, Drv.wait, Drv.waitNull, Drv.cancel, Drv.attach, Drv.detach, Drv.hdrWrite,
      Drv.putAtt, Drv.renameAtt, Drv.copyAtt, Drv.delAtt, Drv.rename, Drv.fillVarRec]
    noop_leaves

def Keeps {α : Type} (π : State → α) (s : State) (o : Out) : Prop := π o.st = π s

theorem keeps_ite {α : Type} {π : State → α} {s : State} {c : Prop} [Decidable c] {a b : Out}
    (ha : Keeps π s a) (hb : Keeps π s b) : Keeps π s (if c then a else b) := by split <;> assumption

/-- descends through an `if` tree: every leaf changes only fields that `π` does not read -/
macro "keeps_leaves" : tactic => `(tactic| repeat' first | apply keeps_ite | exact rfl)

/-- what the mode tests read: the mode bits of both layers, the open/closed status and `ncp->old` -/
def modeView (s : State) := (s.d, s.n, s.opened, s.old)

theorem step_frame (cfg : Cfg) (s : State) (c : Call) (hm : isModeCall c = false) :
    Keeps modeView s (step cfg s c) := by
  unfold step
  refine keeps_ite rfl ?_
  cases c
  case enddef | enddefArgs | redef | beginIndep | endIndep | close | abort => exact Bool.noConfusion hm
  case post k _ _ _ _ _ => cases k <;> keeps_leaves
  all_goals
    dsimp only [Drv.syncNumrecs, Drv.sync, Drv.wait, Drv.waitNull, Drv.cancel, Drv.attach, Drv.detach, Drv.hdrWrite,
      Drv.putAtt, Drv.renameAtt, Drv.copyAtt, Drv.delAtt, Drv.rename, Drv.fillVarRec]
    keeps_leaves

def invView (s : State) := (s.opened, s.d, s.n, s.old, s.abuf, s.nPut, s.nBput)

theorem inv_of_view {s : State} {o : Out} (h : ModeInv s) (ho : s.opened = true) (hv : Keeps invView s o) :
    ModeInv o.st := by
  obtain ⟨_, _, _, _, _, _, _, _, _, _⟩ := s
  obtain ⟨⟨_, _, _, _, _, _, _, _, _, _⟩, _, _, _, _⟩ := o
  simp only [Keeps, invView, Prod.mk.injEq] at hv
  obtain ⟨rfl, rfl, rfl, rfl, rfl, rfl, rfl⟩ := hv
  exact ⟨fun h0 => absurd (ho.symm.trans h0) (by decide), h.rd, h.df, h.ind, h.one, h.ro, h.cr, h.dcr, h.od, h.rdf,
    h.bp, h.ab⟩

/-- The number of processes is never observed: the one place that reads `cfg.multi`, the collective
    varn call whose argument tests failed, joins the wait with a null request id (`Drv.waitNull`),
    which completes nothing. -/
theorem step_multi (f m : Bool) (s : State) (c : Call) : step ⟨f, m⟩ s c = step ⟨f, false⟩ s c := by
  cases m
  · rfl
  · cases c <;> try rfl
    simp [step, Drv.waitNull, ret]

theorem inv_closed : ModeInv closed := by constructor <;> simp [closed]

theorem inv_created (r : Bool) : ModeInv (created r) := by constructor <;> simp [created, closed]

theorem inv_opened (w r : Bool) : ModeInv (openedFile w r) := by
  constructor <;> simp [openedFile, closed]

/-- data mode (collective or independent), writable or read-only; `old` unset, not new -/
@[reducible] def dataSt (dr di dc recDef recCommit abuf : Bool) (nGet nPut nBput : Nat) : State :=
  { opened := true, d := ⟨dr, false, di, dc⟩, n := ⟨dr, false, di, false⟩, old := false, recDef := recDef,
    recCommit := recCommit, abuf := abuf, nGet := nGet, nPut := nPut, nBput := nBput }

/-- define mode: right after ncmpi_create (`nw`: both CREATE bits set, `old` unset), or entered through
    ncmpi_redef (`old` set, the driver's CREATE bit clear, the dispatcher's as it was).  The dispatcher
    INDEP bit `di` may be stale. -/
@[reducible] def defSt (nw di dc recDef recCommit abuf : Bool) (nGet nPut nBput : Nat) : State :=
  { opened := true, d := ⟨false, true, di, nw || dc⟩, n := ⟨false, true, false, nw⟩, old := !nw,
    recDef := recDef, recCommit := recCommit, abuf := abuf, nGet := nGet, nPut := nPut, nBput := nBput }

/-- `ModeInv` of an open state, as a case distinction: the fields of `ModeInv` are what the theorems
    project, the two shapes are what the case analyses compute with (`core_of_inv`, `inv_of_core`). -/
inductive Core : State → Prop
  | data (dr di dc recDef recCommit abuf : Bool) (nGet nPut nBput : Nat) :
      Core (dataSt dr di dc recDef recCommit abuf nGet nPut nBput)
  | define (nw di dc recDef recCommit abuf : Bool) (nGet nPut nBput : Nat) :
      Core (defSt nw di dc recDef recCommit abuf nGet nPut nBput)

theorem data_ne_define (b : Bool) : ((if b = true then Mode.indep else Mode.coll) = Mode.define) = False := by
  cases b <;> simp

/-- unfolds model and specification completely -/
macro "mode_simp" : tactic => `(tactic|
  simp [dataSt, defSt, step, specStep, abs, absOut, ret, aclosed, closed, modeOf, specErr, rule, modeErr, firstErr, effect,
        PnVerif.ModeLemmas.xlen_eq_headerBytes, PnVerif.ModeLemmas.data_ne_define, Cfg.repaired, Cfg.pinned, Cfg.pinnedMulti, vNoGlobal, vOrGlobal, growsInData, isRejection, isModeCall,
        apply_ite Out.err, apply_ite Out.st, apply_ite Out.del, apply_ite Out.val, apply_ite Out.wr,
        Drv.enddef, Drv.endIndep, Drv.beginIndep, Drv.redef, Drv.cancelAll, Drv.close, Drv.abort,
        Drv.syncNumrecs, Drv.sync, Drv.wait, Drv.waitNull, Drv.cancel, Drv.attach, Drv.detach, Drv.hdrWrite, Drv.putAtt,
        Drv.renameAtt, Drv.copyAtt, Drv.delAtt, Drv.rename, Drv.fillVarRec, Drv.post, sanityCheck, fillDispErr])

theorem core_of_inv (s : State) (h : ModeInv s) (ho : s.opened = true) : Core s := by
  obtain ⟨cl, rd, df, ind, one, ro, cr, dcr, od, rdf, bp, ab⟩ := h
  obtain ⟨opened, ⟨dr, dd, di, dc⟩, ⟨nr, nd, ni, nc⟩, old, recDef, recCommit, abuf, nGet, nPut, nBput⟩ := s
  simp only at ho
  subst ho
  simp only [forall_const] at rd df ind one ro cr dcr od rdf
  subst rd df
  cases dd with
  | false =>
    simp only [forall_const] at ind
    subst ind
    have hnc : nc = false := by
      cases nc with
      | false => rfl
      | true => exact Bool.noConfusion (cr rfl).1
    have hold : old = false := by
      cases old with
      | false => rfl
      | true => exact Bool.noConfusion (od rfl)
    subst hnc hold
    exact Core.data ..
  | true =>
    have hni : ni = false := one rfl
    have hdr : dr = false := by
      cases dr with
      | false => rfl
      | true => exact Bool.noConfusion (ro rfl).1
    subst hni hdr
    cases nc with
    | true =>
      have hold : old = false := (cr rfl).2
      have hdc : dc = true := dcr rfl
      subst hold hdc
      exact Core.define true _ true ..
    | false =>
      have hold : old = true := rdf rfl rfl
      subst hold
      exact Core.define false ..

theorem inv_of_core {s : State} (hc : Core s) (ro : s.n.rdonly = true → s.nPut = 0) (bp : s.nBput ≤ s.nPut)
    (ab : 0 < s.nBput → s.abuf = true) : ModeInv s := by
  cases hc with
  | data => exact ⟨by simp, by simp, by simp, by simp, by simp, by simpa using ro, by simp, by simp, by simp, by simp, bp, ab⟩
  | define =>
    -- `dcr` (eighth): the driver's CREATE bit is `nw`, the dispatcher's `nw || dc`
    exact ⟨by simp, by simp, by simp, by simp, by simp, by simp, by simp, by simp +contextual, by simp, by simp, bp, ab⟩

theorem inv_ite {c : Prop} [Decidable c] {a b : State} (ha : c → ModeInv a) (hb : ¬c → ModeInv b) :
    ModeInv (if c then a else b) := by
  split
  · exact ha ‹_›
  · exact hb ‹_›

theorem reach_cases {s : State} (h : ModeInv s) : s = closed ∨ Core s := by
  by_cases ho : s.opened = true
  · exact .inr (core_of_inv s h ho)
  · exact .inl (h.cl (by simpa using ho))

/-- the three ways a file comes into being in the harness and in the property -/
inductive Start : State → Prop
  | created (hasRec : Bool) : Start (Mode.created hasRec)
  | opened (write hasRec : Bool) : Start (Mode.openedFile write hasRec)

theorem inv_start {s : State} (h0 : Start s) : ModeInv s := by
  cases h0 with
  | created r => exact inv_created r
  | opened w r => exact inv_opened w r

/-- the only calls on which the pinned source differs from the repaired one -/
def droppedCheck (s : State) : Call → Bool
  | .fillVarRec v => s.opened && fillDispErr s.d v != .noerr
  | _ => false


/-- the documented automaton iterated over a history -/
def specRun (a : AState) : List Call → AState
  | [] => a
  | c :: cs => specRun (specStep a c).st cs


/-- Formerly the one place where the number of processes mattered: a *collective varn* call whose argument
    tests fail still joins the collective wait with a null request id, and `extract_reqs` used to
    complete the caller's single pending request (defect F4 of property C02 seen from here).  Repaired in
    /repo commit 12532099; the predicate is kept (constantly false) so that the statements below read
    the same on both sides of the repair. -/
def flushQuirk (_cfg : Cfg) (_s : State) : Call → Bool
  | _ => false


end PnVerif.ModeLemmas
