import PnVerif.Model.Header
/-
  Lengths of what the writer produces (hdr_put_NC_*) against the header size computation
  (hdr_len_NC_*).
-/
namespace PnVerif.Header
open PnVerif.Spec

@[simp] theorem zeros_length (n : Nat) : (zeros n).length = n := by simp [zeros]
@[simp] theorem be32_length (n : Nat) : (be32 n).length = 4 := rfl
@[simp] theorem be64_length (n : Nat) : (be64 n).length = 8 := rfl

@[simp] theorem ztake_length (n : Nat) (s : Bytes) : (ztake n s).length = n := by
  simp [ztake]; omega

theorem putNonNeg_length (f : Fmt) (n : Nat) :
    (putNonNeg f.version n).length = sizeofNonNeg f.version := by
  cases f <;> simp [putNonNeg, sizeofNonNeg, Fmt.version]

theorem putBegin_length (f : Fmt) (n : Nat) :
    (putBegin f.version n).length = sizeofOff f.version := by
  cases f <;> simp [putBegin, sizeofOff, Fmt.version]

/-- a name as the API and the reader produce it: no NUL byte inside -/
def NoNul (name : Bytes) : Prop := ∀ b ∈ name, b ≠ 0

theorem cstr_eq_self {name : Bytes} (h : NoNul name) : cstr name = name := by
  induction name with
  | nil => rfl
  | cons a t ih =>
    have ha : (a != 0) = true := by simpa using h a (by simp)
    rw [cstr, List.takeWhile_cons, ha, ← cstr, ih (fun b hb => h b (by simp [hb]))]; rfl

theorem putName_pad (n : Nat) : (if n % 4 ≠ 0 then 4 - n % 4 else 0) = Spec.padLen n := by
  unfold Spec.padLen; split <;> omega

theorem putName_length (f : Fmt) {name : Bytes} (h : NoNul name) :
    (putName f.version name).length = sizeofNonNeg f.version + rndup name.length 4 := by
  unfold putName
  simp only [cstr_eq_self h, List.length_append, putNonNeg_length, zeros_length, putName_pad, rndup4_eq, Nat.add_assoc]

theorem length_flatMap_eq_sum {α : Type} (f : α → Bytes) (g : α → Nat) (l : List α)
    (h : ∀ x ∈ l, (f x).length = g x) : (l.flatMap f).length = (l.map g).sum := by
  rw [List.length_flatMap, List.map_congr_left h]

theorem xlenAttrV_ge (t : NcType) (n : Nat) : n * t.size ≤ xlenAttrV t n := by
  rw [xlenAttrV_eq, rndup4_eq]; exact Nat.le_add_right ..

/-- no name of the header contains a NUL byte (always true of names that came through the API or
    through strlen-based code; the writer uses strlen, the size computation uses name_len) -/
def NamesNoNul (h : Hdr) : Prop :=
  (∀ d ∈ h.dims, NoNul d.name) ∧ (∀ a ∈ h.gatts, NoNul a.name) ∧
  ∀ v ∈ h.vars, NoNul v.name ∧ ∀ a ∈ v.atts, NoNul a.name

/-- the common shape of hdr_put_NC_dimarray / _attrarray / _vararray -/
theorem putArray_length {α : Type} (f : Fmt) (tag : Nat) {enc : α → Bytes} {len : α → Nat} {xs : List α}
    (h : ∀ x ∈ xs, (enc x).length = len x) :
    (if xs.length = 0 then be32 0 ++ putNonNeg f.version 0
      else be32 tag ++ putNonNeg f.version xs.length ++ xs.flatMap enc).length =
      4 + sizeofNonNeg f.version + (xs.map len).sum := by
  split
  · cases List.eq_nil_of_length_eq_zero ‹_›
    simp [putNonNeg_length]
  · simp only [List.length_append, be32_length, putNonNeg_length, length_flatMap_eq_sum enc len xs h]

theorem putAttr_length (f : Fmt) (a : Att) (h : NoNul a.name) :
    (putAttr f.version a).length = lenAttr (sizeofNonNeg f.version) a := by
  unfold putAttr lenAttr
  simp only [List.length_append, putName_length f h, be32_length, putNonNeg_length]
  have hx := xlenAttrV_ge a.xtype a.nelems
  unfold attrXsz putAttrV attrXsz
  split
  · simp only [List.length_append, ztake_length, zeros_length]; omega
  · rfl

theorem putAttrArray_length (f : Fmt) (as : List Att) (h : ∀ a ∈ as, NoNul a.name) :
    (putAttrArray f.version as).length = lenAttrArray (sizeofNonNeg f.version) as :=
  putArray_length f _ fun a ha => putAttr_length f a (h a ha)

theorem putDimArray_length (f : Fmt) (ds : List Dim) (h : ∀ d ∈ ds, NoNul d.name) :
    (putDimArray f.version ds).length = lenDimArray (sizeofNonNeg f.version) ds :=
  putArray_length f _ fun d hd => by
    simp only [putDim, lenDim, List.length_append, putName_length f (h d hd), putNonNeg_length]

theorem putVar_length (f : Fmt) (v : Var) (h : NoNul v.name) (ha : ∀ a ∈ v.atts, NoNul a.name) :
    (putVar f.version v).length = lenVar (sizeofNonNeg f.version) (sizeofOff f.version) v := by
  unfold putVar lenVar
  simp only [List.length_append, putName_length f h, be32_length, putNonNeg_length, putBegin_length,
    putAttrArray_length f v.atts ha,
    length_flatMap_eq_sum _ (fun _ => sizeofNonNeg f.version) v.dimids (fun x _ => putNonNeg_length f x),
    List.map_const', List.sum_replicate_nat, Nat.mul_comm]

theorem putVarArray_length (f : Fmt) (vs : List Var)
    (h : ∀ v ∈ vs, NoNul v.name ∧ ∀ a ∈ v.atts, NoNul a.name) :
    (putVarArray f.version vs).length = lenVarArray (sizeofNonNeg f.version) (sizeofOff f.version) vs :=
  putArray_length f _ fun v hv => putVar_length f v (h v hv).1 (h v hv).2

end PnVerif.Header
