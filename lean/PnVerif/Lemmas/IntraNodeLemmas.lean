import PnVerif.Model.IntraNode
import PnVerif.Lemmas.FlattenLemmas
import PnVerif.Lemmas.MergeLemmas
import PnVerif.Lemmas.ScsLemmas
/-
  Lemmas about Model/IntraNode.lean.  flatten_subarray is the same bottom-up construction as
  vars_flatten of ncmpio_wait.c (Model/Flatten.lean), whose correctness is
  Props.C02.varsFlatten_offsets (through Props.C01.strideFlatten_offsets); the aggregator's merge
  loop and coalescing pass are the ones of merge_requests / type_create_off_len (Model/Merge.lean).
-/
namespace PnVerif.IntraNode
open PnVerif.Access PnVerif.Merge PnVerif.Flatten

theorem fsStep_eq_vfStep : fsStep = vfStep := rfl

theorem fsLoop_eq_vfLoop (el : Nat) : ∀ (xs : List (Nat × Nat × Nat × Nat × Bool)) (a : Nat) (offs : List Nat),
    fsLoop el xs a offs = vfLoop el xs a offs
  | [], _, _ => rfl
  | (s, c, k, dl, f) :: rest, a, offs => by
    simp only [fsLoop, vfLoop, fsStep_eq_vfStep, fsLoop_eq_vfLoop el rest]

theorem flattenSubarrayOffs_eq (el b : Nat) (dimlen s c k : List Nat) :
    flattenSubarrayOffs el b dimlen s c k = varsFlattenOffs el b dimlen s c k := by
  unfold flattenSubarrayOffs varsFlattenOffs
  simp only [fsLoop_eq_vfLoop]

theorem expandPairs_map (el len : Nat) (offs : List Nat) :
    expandPairs el (offs.map (fun o => (o, len))) = expandBlocks el offs len := by
  unfold expandPairs expandBlocks
  rw [List.flatMap_map]

theorem expandPairs_append (el : Nat) (a b : List (Nat × Nat)) :
    expandPairs el (a ++ b) = expandPairs el a ++ expandPairs el b := by
  unfold expandPairs; rw [List.flatMap_append]

/-- the array `dimlen` of `el`-byte elements whose first byte is at `b`, as a fixed-size variable -/
def arr (el b : Nat) (dimlen : List Nat) : VarLay :=
  { begin := b, xsz := el, shape := dimlen, isRec := false, recsize := 0 }

theorem elemOff_arr (el b : Nat) (dimlen idx : List Nat) :
    elemOff (arr el b dimlen) idx = b + rowMajor dimlen idx * el :=
  elemOff_fixed rfl idx

theorem recBlocks_eq (el R k0 : Nat) (dimlen s c k : List Nat) : ∀ (n b : Nat),
    recBlocks el R k0 dimlen s c k n b =
      (List.range n).flatMap (fun i => flattenSubarray el (b + i * (k0 * R)) dimlen s c k)
  | 0, _ => rfl
  | n + 1, b => by
    rw [recBlocks, recBlocks_eq el R k0 dimlen s c k n, flatMap_range_succ]
    simp only [Nat.zero_mul, Nat.add_zero, Nat.add_mul, Nat.one_mul, Nat.add_assoc, Nat.add_comm (k0 * R)]

theorem flattenReq_fixed (v : VarLay) (s c k : List Nat) (h : v.isRec = false) :
    flattenReq v s c k = flattenSubarray v.xsz v.begin v.shape s c k := by
  unfold flattenReq flattenSubarray
  by_cases hd : v.shape.length = 0 <;> simp [hd, h]

theorem flattenReq_rec (v : VarLay) (s c k : List Nat) (h : v.isRec = true) (hs : v.shape ≠ []) :
    flattenReq v s c k = (List.range (c.headD 0)).flatMap (fun i =>
      flattenSubarray v.xsz (v.begin + s.headD 0 * v.recsize + i * (k.headD 1 * v.recsize))
        (v.shape.drop 1) (s.drop 1) (c.drop 1) (k.drop 1)) := by
  have hd : ¬ v.shape.length = 0 := fun h0 => hs (List.length_eq_zero_iff.mp h0)
  simp only [flattenReq, hd, h, if_true, if_false, recBlocks_eq]

theorem expandPairs_flatMap {α : Type} (el : Nat) (l : List α) (f : α → List (Nat × Nat)) :
    expandPairs el (l.flatMap f) = l.flatMap (fun x => expandPairs el (f x)) := by
  unfold expandPairs; rw [List.flatMap_assoc]

theorem aggrGo_eq : ∀ (rest : List Seg) (cur : Seg), aggrGo cur rest = mergeGo cur rest
  | [], _ => rfl
  | s :: rest, cur => by
    unfold aggrGo mergeGo
    simp only [aggrGo_eq rest]

theorem aggrPass1_eq (l : List Seg) : aggrPass1 l = mergeSegs l := by
  cases l with
  | nil => rfl
  | cons s rest => exact aggrGo_eq rest s

theorem fileGo_eq : ∀ (rest : List Seg) (d b : Int), fileGo d b rest = coalGo (fun s => s.off) d b rest
  | [], _, _ => rfl
  | s :: rest, d, b => by
    unfold fileGo coalGo
    simp only [fileGo_eq rest]

theorem filePairs_eq (l : List Seg) : filePairs l = fileType l := by
  cases l with
  | nil => rfl
  | cons s rest => exact fileGo_eq rest _ _

theorem mkSegsFrom_offlen : ∀ (l : List (Int × Int)) (a : Int),
    (mkSegsFrom a l).map (fun s => (s.off, s.len)) = l
  | [], _ => rfl
  | p :: ps, a => by simp [mkSegsFrom, mkSegsFrom_offlen ps]

theorem mkSegs_pairwise (R : Int × Int → Int × Int → Prop) (l : List (Int × Int)) (a : Int)
    (h : List.Pairwise R l) : List.Pairwise (fun x y => R (x.off, x.len) (y.off, y.len)) (mkSegsFrom a l) :=
  List.pairwise_map.mp ((mkSegsFrom_offlen l a).symm ▸ h)

theorem mkSegs_pos (l : List (Int × Int)) (a : Int) (h : ∀ p ∈ l, 0 < p.2) : Pos (mkSegsFrom a l) :=
  fun s hs => h (s.off, s.len) (mkSegsFrom_offlen l a ▸ List.mem_map_of_mem hs)

def sumLens : List (Int × Int) → Int
  | [] => 0
  | p :: ps => p.2 + sumLens ps

theorem sumLens_nonneg : ∀ (l : List (Int × Int)), (∀ p ∈ l, 0 ≤ p.2) → 0 ≤ sumLens l
  | [], _ => by simp [sumLens]
  | p :: ps, h => by
    obtain ⟨hp, hps⟩ := List.forall_mem_cons.mp h
    have := sumLens_nonneg ps hps
    simp only [sumLens]; omega

theorem pairs_cons' (s : Seg) (l : List Seg) :
    pairs (s :: l) = (List.range s.len.toNat).map (fun (k : Nat) => (s.off + (k : Int), s.buf + (k : Int))) ++ pairs l := by
  simp [pairs, List.flatMap_cons]

/-- what the triples stand for: the file bytes of the inputs in arrival order, paired with the
    consecutive positions of recv_buf (= the concatenation of the ranks' packed write buffers) -/
theorem mkSegs_meaning : ∀ (l : List (Int × Int)) (a : Int), (∀ p ∈ l, 0 ≤ p.2) →
    (pairs (mkSegsFrom a l)).map (·.1) = l.flatMap (fun p => span p.1 p.2) ∧
    (pairs (mkSegsFrom a l)).map (·.2) = span a (sumLens l)
  | [], a, _ => by simp [mkSegsFrom, pairs, sumLens, span]
  | p :: ps, a, h => by
    obtain ⟨hp0, hps⟩ := List.forall_mem_cons.mp h
    obtain ⟨ih1, ih2⟩ := mkSegs_meaning ps (a + p.2) hps
    simp only [mkSegsFrom, pairs_cons', List.map_append, List.map_map, List.flatMap_cons, sumLens]
    constructor
    · rw [ih1]; rfl
    · rw [ih2, span_add a p.2 (sumLens ps) hp0 (sumLens_nonneg ps hps)]; rfl

/-! The request checker's model (Model/Scs.lean) has its own `rowMajor`, layout record and integer index
    enumeration; from here to `cart_length` they are identified with the offset model's, for
    `C15.aggregated_write_footprint`. -/

theorem prod_eq_foldr : ∀ (l : List Nat), Access.prod l = l.foldr (· * ·) 1
  | [] => rfl
  | x :: xs => by simp [Access.prod, prod_eq_foldr xs]

theorem rowMajor_agree : ∀ (shape idx : List Nat), Scs.rowMajor shape idx = Access.rowMajor shape idx
  | [], _ => by simp [Scs.rowMajor, Access.rowMajor]
  | _ :: _, [] => by simp [Scs.rowMajor, Access.rowMajor]
  | _ :: ns, i :: is => by
    simp only [Scs.rowMajor, Access.rowMajor, rowMajor_agree ns is, prod_eq_foldr]

def toLay (v : Scs.VarLayout) : VarLay :=
  { begin := v.begin, xsz := v.xsz, shape := v.shape, isRec := v.isRec, recsize := v.recsize }

theorem elemOffset_agree (v : Scs.VarLayout) (idx : List Nat) (h : idx.length = v.shape.length) (hne : idx ≠ []) :
    Scs.elemOffset v idx = elemOff (toLay v) idx := by
  unfold Scs.elemOffset elemOff toLay
  cases hr : v.isRec
  · simp [rowMajor_agree]
  · cases hs : v.shape with
    | nil => rw [hs] at h; exact absurd (List.length_eq_zero_iff.mp h) hne
    | cons n ns =>
      cases idx with
      | nil => exact absurd rfl hne
      | cons r is => simp [rowMajor_agree]

theorem cart_enumIdx {α : Type} (fs fc fk : α → Int) : ∀ (l : List α), (∀ t ∈ l, 0 ≤ fs t ∧ 0 ≤ fk t) →
    (Scs.cart (l.map (fun t => Scs.dimIdx (fs t) (fc t) (fk t)))).map (fun ix => ix.map Int.toNat)
      = enumIdx (l.map (fun t => (fs t).toNat)) (l.map (fun t => (fc t).toNat)) (l.map (fun t => (fk t).toNat))
  | [], _ => by simp [Scs.cart, enumIdx]
  | t :: rest, h => by
    obtain ⟨⟨hs, hk⟩, hrest⟩ := List.forall_mem_cons.mp h
    have e (i : Nat) : (fs t + i * fk t).toNat = (fs t).toNat + i * (fk t).toNat := by
      rw [Int.toNat_add hs (Int.mul_nonneg (Int.natCast_nonneg i) hk), Int.toNat_mul (Int.natCast_nonneg i) hk,
        Int.toNat_natCast]
    simp only [List.map_cons, Scs.cart, enumIdx, Scs.dimIdx, List.flatMap_map, List.map_flatMap, List.map_map,
      ← cart_enumIdx fs fc fk rest hrest, Function.comp_def, e]

theorem cart_length : ∀ (ls : List (List Int)) (t : List Int), t ∈ Scs.cart ls → t.length = ls.length
  | [], t, h => by simp [Scs.cart] at h; simp [h]
  | l :: ls, t, h => by
    simp only [Scs.cart, List.mem_flatMap, List.mem_map] at h
    obtain ⟨x, _, t', ht', rfl⟩ := h
    simp [cart_length ls t' ht']

end PnVerif.IntraNode
