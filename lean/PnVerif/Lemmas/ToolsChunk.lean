import PnVerif.Model.Tools
/-
  Lemmas about the chunked comparison loop of cdfdiff (Model/Tools.lean, `chunkLoop`): whatever the chunk size, it
  decides equality of the two byte ranges — the whole-range comparison `toolDiff` works with.
-/

namespace PnVerif.Tools
open PnVerif.Spec PnVerif.Header

theorem take_split (x : Bytes) (l n : Nat) (h : l ≤ n) : x.take n = x.take l ++ (x.drop l).take (n - l) := by
  rw [← List.take_add, Nat.add_sub_cancel' h]

/-- `k` steps are enough for what both files still hold of the `n` bytes to compare: a short read of the same length
    from both files leaves nothing in either -/
theorem chunkLoop_eq (chunk : Nat) : ∀ (k : Nat) (x y : Bytes) (n : Nat), min n (max x.length y.length) ≤ k * chunk →
    chunkLoop chunk k x y n = decide (x.take n = y.take n) := by
  intro k
  induction k with
  | zero =>
    intro x y n hn
    have : x.take n = y.take n := by
      by_cases h0 : n = 0
      · rw [h0]; rfl
      · rw [List.eq_nil_of_length_eq_zero (by omega : x.length = 0), List.eq_nil_of_length_eq_zero (by omega : y.length = 0)]
    simp [chunkLoop, this]
  | succ k ih =>
    intro x y n hn
    have hr : min n chunk ≤ n := Nat.min_le_left _ _
    simp only [chunkLoop]
    by_cases hab : x.take (min n chunk) = y.take (min n chunk)
    · have hl := congrArg List.length hab
      rw [if_neg (not_not_intro hl), if_neg (not_not_intro hab)]
      simp only [List.length_take] at hl ⊢
      rw [ih _ _ _ (by simp only [List.length_drop]; rw [Nat.succ_mul] at hn; omega)]
      -- both ranges start with the bytes just read
      have hx := take_split x (min (min n chunk) x.length) n (by omega)
      have hy := take_split y (min (min n chunk) y.length) n (by omega)
      rw [← List.take_eq_take_min, hab] at hx
      rw [← List.take_eq_take_min, ← hl] at hy
      rw [decide_eq_decide, hx, hy, List.append_cancel_left_eq]
    · have hne : ¬ x.take n = y.take n := fun he => hab (by
        have := congrArg (List.take (min n chunk)) he
        rwa [List.take_take, List.take_take, Nat.min_eq_left hr] at this)
      rw [decide_eq_false hne]
      rw [if_pos hab, ite_self]

theorem nChunks_covers (n chunk : Nat) (hc : 0 < chunk) : n ≤ nChunks n chunk * chunk := by
  unfold nChunks
  have h := Nat.div_add_mod n chunk
  have hm : n % chunk < chunk := Nat.mod_lt _ hc
  rw [Nat.add_mul, Nat.mul_comm]
  split <;> omega

end PnVerif.Tools
