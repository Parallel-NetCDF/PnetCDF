import PnVerif.Model.NumRecs
namespace PnVerif.NumRecs

theorem maxOver_le_iff {b c : Nat} {l : List Nat} : maxOver b l ≤ c ↔ b ≤ c ∧ ∀ x ∈ l, x ≤ c := by
  unfold maxOver
  induction l generalizing b with
  | nil => simp
  | cons y ys ih => rw [List.foldl_cons, ih, Nat.max_le, List.forall_mem_cons, and_assoc]

theorem le_maxOver_base (b : Nat) (l : List Nat) : b ≤ maxOver b l :=
  (maxOver_le_iff.mp (Nat.le_refl _)).1

theorem le_maxOver_mem {b : Nat} {l : List Nat} {x : Nat} (h : x ∈ l) : x ≤ maxOver b l :=
  (maxOver_le_iff.mp (Nat.le_refl _)).2 x h

theorem maxOver_mono_base {a b : Nat} (l : List Nat) (h : a ≤ b) : maxOver a l ≤ maxOver b l :=
  maxOver_le_iff.mpr ⟨Nat.le_trans h (le_maxOver_base b l), fun _ hx => le_maxOver_mem hx⟩

theorem maxOver_eq_max (b : Nat) (l : List Nat) : maxOver b l = max b (maxOver 0 l) := by
  unfold maxOver
  induction l generalizing b with
  | nil => exact (Nat.max_zero b).symm
  | cons y ys ih => rw [List.foldl_cons, List.foldl_cons, ih (max b y), ih (max 0 y), Nat.zero_max, Nat.max_assoc]

theorem maxOver_mem_or (b : Nat) (l : List Nat) : maxOver b l = b ∨ maxOver b l ∈ l := by
  unfold maxOver
  induction l generalizing b with
  | nil => exact Or.inl rfl
  | cons y ys ih =>
    rcases ih (max b y) with h | h
    · rw [List.foldl_cons, h]
      rcases Nat.le_total b y with hby | hby
      · right; rw [Nat.max_eq_right hby]; exact List.mem_cons_self
      · left; exact Nat.max_eq_left hby
    · right; exact List.mem_cons_of_mem _ h

/-- `cs`: what the ranks contribute to the Allreduce(MAX); `es`: the ends of the writes completed; `b`: the old ghost count -/
theorem max_allreduce_eq (b : Nat) (cs es : List Nat) (hc : ∀ c ∈ cs, c ≤ maxOver b es)
    (he : ∀ e ∈ es, ∃ c ∈ cs, e ≤ c) : max b (maxOver 0 cs) = maxOver b es := by
  apply Nat.le_antisymm
  · exact Nat.max_le.mpr ⟨le_maxOver_base b es, maxOver_le_iff.mpr ⟨Nat.zero_le _, hc⟩⟩
  · refine maxOver_le_iff.mpr ⟨Nat.le_max_left _ _, fun e h => ?_⟩
    obtain ⟨c, hcm, hec⟩ := he e h
    exact Nat.le_trans hec (Nat.le_trans (le_maxOver_mem hcm) (Nat.le_max_right _ _))

/-- The specification's invariant (`hi`, `own`: the ghost fields of Model/NumRecs.lean).
    * `coll`: collective data mode, every rank's count = the header field = `hi`;
    * `ind`: independent data mode, nobody is above `hi` and somebody holds it, so that the next synchronisation
      (Allreduce(MAX), root writing the result) re-establishes `coll`;
    * `rootHdr`: ncmpio_write_numrecs is executed by root alone and only when root's own count rises (`raiseAll_hdr`);
      were the header field above root's count such a write could lower it, and `Mono` would fail. -/
structure Inv (w : World) : Prop where
  nonempty : w.ranks ≠ []
  coll : w.indep = false → (∀ r ∈ w.ranks, r.numrecs = w.hi) ∧ w.hdr = w.hi
  ind : w.indep = true → (∀ r ∈ w.ranks, r.numrecs ≤ w.hi) ∧ w.hdr ≤ w.hi ∧ (∃ r ∈ w.ranks, r.numrecs = w.hi)
  own : ∀ r ∈ w.ranks, r.own ≤ r.numrecs
  rootHdr : ∀ root, w.ranks.head? = some root → w.hdr ≤ root.numrecs

theorem Inv.le_hi {w : World} (hI : Inv w) {r : Rank} (hr : r ∈ w.ranks) : r.numrecs ≤ w.hi := by
  cases hc : w.indep
  · exact Nat.le_of_eq ((hI.coll hc).1 r hr)
  · exact (hI.ind hc).1 r hr

theorem Inv.exists_hi {w : World} (hI : Inv w) : ∃ r ∈ w.ranks, r.numrecs = w.hi := by
  cases hc : w.indep
  · obtain ⟨x, hx⟩ := List.exists_mem_of_ne_nil _ hI.nonempty
    exact ⟨x, hx, (hI.coll hc).1 x hx⟩
  · exact (hI.ind hc).2.2

theorem Inv.root {w : World} (hI : Inv w) : ∃ root, w.ranks.head? = some root ∧ root ∈ w.ranks :=
  ⟨_, List.head?_eq_some_head hI.nonempty, List.head_mem hI.nonempty⟩

theorem Inv.of_bounds {w : World} (hne : w.ranks ≠ [])
    (hown : ∀ r ∈ w.ranks, r.own ≤ r.numrecs) (hle : ∀ r ∈ w.ranks, r.numrecs ≤ w.hi)
    (hwit : ∃ r ∈ w.ranks, r.numrecs = w.hi) (hroot : ∀ root, w.ranks.head? = some root → w.hdr ≤ root.numrecs)
    (hcoll : w.indep = false → (∀ r ∈ w.ranks, w.hi ≤ r.numrecs) ∧ w.hi ≤ w.hdr) : Inv w := by
  have hhdr : w.hdr ≤ w.hi :=
    Nat.le_trans (hroot _ (List.head?_eq_some_head hne)) (hle _ (List.head_mem hne))
  refine ⟨hne, fun hc => ?_, fun _ => ⟨hle, hhdr, hwit⟩, hown, hroot⟩
  exact ⟨fun r hr => Nat.le_antisymm (hle r hr) ((hcoll hc).1 r hr), Nat.le_antisymm hhdr (hcoll hc).2⟩

theorem Inv.of_coherent {w : World} (hne : w.ranks ≠ []) (hall : ∀ r ∈ w.ranks, r.numrecs = w.hi)
    (hhdr : w.hdr = w.hi) (hown : ∀ r ∈ w.ranks, r.own ≤ r.numrecs) : Inv w :=
  Inv.of_bounds hne hown (fun r hr => Nat.le_of_eq (hall r hr)) ⟨_, List.head_mem hne, hall _ (List.head_mem hne)⟩
    (fun root h => by rw [hhdr, hall root (List.mem_of_mem_head? h)]; exact Nat.le_refl _)
    (fun _ => ⟨fun r hr => Nat.le_of_eq (hall r hr).symm, Nat.le_of_eq hhdr.symm⟩)

theorem inv_map {w : World} (hne : w.ranks ≠ []) (g : Rank → Rank) (hdr' : Nat) (ind' : Bool) (hi' : Nat)
    (hown : ∀ r ∈ w.ranks, (g r).own ≤ (g r).numrecs) (hle : ∀ r ∈ w.ranks, (g r).numrecs ≤ hi')
    (hwit : ∃ r ∈ w.ranks, (g r).numrecs = hi') (hroot : ∀ root, w.ranks.head? = some root → hdr' ≤ (g root).numrecs)
    (hcoll : ind' = false → (∀ r ∈ w.ranks, hi' ≤ (g r).numrecs) ∧ hi' ≤ hdr') :
    Inv { ranks := w.ranks.map g, hdr := hdr', indep := ind', hi := hi' } := by
  obtain ⟨r, hr, hrw⟩ := hwit
  refine Inv.of_bounds (fun h => hne (List.map_eq_nil_iff.mp h)) (List.forall_mem_map.mpr hown)
    (List.forall_mem_map.mpr hle) ⟨g r, List.mem_map_of_mem hr, hrw⟩ ?_
    (fun hc => ⟨List.forall_mem_map.mpr (hcoll hc).1, (hcoll hc).2⟩)
  intro root' h
  rw [List.head?_map] at h
  obtain ⟨root, hroot', rfl⟩ := Option.map_eq_some_iff.mp h
  exact hroot root hroot'

inductive Pointwise {α : Type} (R : α → α → Prop) : List α → List α → Prop where
  | nil : Pointwise R [] []
  | cons {a b : α} {l1 l2 : List α} : R a b → Pointwise R l1 l2 → Pointwise R (a :: l1) (b :: l2)

/-- rank by rank (same position, same id) the record count did not decrease, nor did the header field -/
def Mono (w w' : World) : Prop :=
  w.hdr ≤ w'.hdr ∧ Pointwise (fun r r' => r.id = r'.id ∧ r.numrecs ≤ r'.numrecs) w.ranks w'.ranks

theorem Pointwise.map {α : Type} (R : α → α → Prop) (l : List α) (g : α → α) (h : ∀ r ∈ l, R r (g r)) :
    Pointwise R l (l.map g) := by
  induction l with
  | nil => exact Pointwise.nil
  | cons x xs ih =>
    exact Pointwise.cons (h x (List.mem_cons_self)) (ih (fun r hr => h r (List.mem_cons_of_mem _ hr)))

theorem Pointwise.trans {α : Type} (R : α → α → Prop) (ht : ∀ a b c, R a b → R b c → R a c)
    {l1 l2 l3 : List α} (h12 : Pointwise R l1 l2) (h23 : Pointwise R l2 l3) : Pointwise R l1 l3 := by
  induction h12 generalizing l3 with
  | nil => cases h23; exact Pointwise.nil
  | cons hab _ ih =>
    cases h23 with
    | cons hbc t23 => exact Pointwise.cons (ht _ _ _ hab hbc) (ih t23)

theorem Pointwise.refl {α : Type} (R : α → α → Prop) (hr : ∀ a, R a a) (l : List α) : Pointwise R l l := by
  induction l with
  | nil => exact Pointwise.nil
  | cons x xs ih => exact Pointwise.cons (hr x) ih

theorem Mono.refl (w : World) : Mono w w :=
  ⟨Nat.le_refl _, Pointwise.refl _ (fun _ => ⟨rfl, Nat.le_refl _⟩) _⟩

theorem Mono.trans {a b c : World} (h1 : Mono a b) (h2 : Mono b c) : Mono a c :=
  ⟨Nat.le_trans h1.1 h2.1,
   Pointwise.trans _ (fun _ _ _ hxy hyz => ⟨hxy.1.trans hyz.1, Nat.le_trans hxy.2 hyz.2⟩) h1.2 h2.2⟩

theorem mono_of_map (w : World) (hdr' : Nat) (ind' : Bool) (hi' : Nat) (g : Rank → Rank)
    (hh : w.hdr ≤ hdr') (hg : ∀ r ∈ w.ranks, r.id = (g r).id ∧ r.numrecs ≤ (g r).numrecs) :
    Mono w { ranks := w.ranks.map g, hdr := hdr', indep := ind', hi := hi' } :=
  ⟨hh, Pointwise.map _ _ _ hg⟩

/-- what every call is shown to do to the world -/
abbrev Keeps (w w' : World) : Prop := Inv w' ∧ Mono w w'

theorem Keeps.refl {w : World} (hI : Inv w) : Keeps w w := ⟨hI, Mono.refl w⟩
theorem Keeps.trans {a b c : World} (h1 : Keeps a b) (h2 : Keeps b c) : Keeps a c := ⟨h2.1, Mono.trans h1.2 h2.2⟩

theorem raiseAll_ranks (w : World) (M : Nat) :
    (raiseAll w M).ranks = w.ranks.map (fun r => if r.numrecs < M then { r with numrecs := M } else r) := rfl
theorem raiseAll_indep (w : World) (M : Nat) : (raiseAll w M).indep = w.indep := rfl
theorem raiseAll_hi (w : World) (M : Nat) : (raiseAll w M).hi = w.hi := rfl

def raiseRank (M : Nat) (r : Rank) : Rank := if r.numrecs < M then { r with numrecs := M } else r
theorem raiseRank_numrecs (M : Nat) (r : Rank) : (raiseRank M r).numrecs = max r.numrecs M := by
  unfold raiseRank; split
  · simp only; omega
  · omega
theorem raiseRank_id (M : Nat) (r : Rank) : (raiseRank M r).id = r.id := by unfold raiseRank; split <;> rfl
theorem raiseRank_own (M : Nat) (r : Rank) : (raiseRank M r).own = r.own := by unfold raiseRank; split <;> rfl
theorem raiseRank_pending (M : Nat) (r : Rank) : (raiseRank M r).pending = r.pending := by unfold raiseRank; split <;> rfl
theorem raiseAll_ranks' (w : World) (M : Nat) : (raiseAll w M).ranks = w.ranks.map (raiseRank M) := raiseAll_ranks w M

theorem raiseAll_hdr (w : World) (M : Nat) (root : Rank) (hr : w.ranks.head? = some root) :
    (raiseAll w M).hdr = if root.numrecs < M then M else w.hdr := by
  obtain ⟨rest, hq⟩ := List.head?_eq_some_iff.mp hr
  unfold raiseAll writeNumrecs
  simp only [hq]
  split
  · rename_i hlt; simp only [hlt, true_or, if_true]; omega
  · rfl

/-- what `rootHdr` buys -/
theorem raiseAll_hdr_bounds (w : World) (M : Nat) (root : Rank) (hr : w.ranks.head? = some root) (h : w.hdr ≤ root.numrecs) :
    w.hdr ≤ (raiseAll w M).hdr ∧ (raiseAll w M).hdr ≤ max root.numrecs M ∧
      (w.hdr = root.numrecs → (raiseAll w M).hdr = max root.numrecs M) := by
  rw [raiseAll_hdr w M root hr]
  split <;> omega

end PnVerif.NumRecs
