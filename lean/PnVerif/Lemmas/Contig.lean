import PnVerif.Lemmas.Access
/-
  is_request_contiguous: if the C function answers "contiguous" for a valid request, the addressed
  elements really form ONE run of consecutive elements in the file (so that replacing the file type
  by a plain offset, as filetype_create_vara does, is correct).
-/
namespace PnVerif.Access

def consec (b L el : Nat) : List Nat := (List.range L).map (fun j => b + j * el)

theorem consec_append (b L M el : Nat) : consec b (L + M) el = consec b L el ++ consec (b + L * el) M el := by
  simp only [consec, List.range_add, List.map_append, List.map_map, Function.comp_def, Nat.add_mul, Nat.add_assoc]

theorem consec_shift (b L el t : Nat) : (consec b L el).map (fun x => t + x) = consec (t + b) L el := by
  simp only [consec, List.map_map, Function.comp_def, Nat.add_assoc]

theorem flatMap_consec (b c L el : Nat) :
    (List.range c).flatMap (fun i => consec (b + i * (L * el)) L el) = consec b (c * L) el := by
  induction c with
  | zero => simp [consec]
  | succ c ih =>
    simp only [List.range_succ, List.flatMap_append, ih, List.flatMap_cons, List.flatMap_nil, List.append_nil,
      Nat.succ_mul, consec_append, Nat.mul_assoc]

/-- a request inside the shape with non-zero counts (what check_start_count_stride accepted, C15) -/
def validReq : List Nat → List Nat → List Nat → Prop
  | [], [], [] => True
  | n :: ns, s :: ss, c :: cs => 0 < c ∧ s + c ≤ n ∧ validReq ns ss cs
  | _, _, _ => False

def ones (n : Nat) : List Nat := List.replicate n 1

theorem validReq_count_ne_zero (ns s c : List Nat) (hv : validReq ns s c) : c.any (· = 0) = false := by
  fun_induction validReq ns s c with
  | case1 => rfl
  | case2 n ns s ss c cs ih =>
    obtain ⟨hc, _, hr⟩ := hv
    simp only [List.any_cons, ih hr, Bool.or_false, decide_eq_false_iff_not]
    omega
  | case3 => exact hv.elim

theorem validReq_full (ns s c : List Nat) (hv : validReq ns s c)
    (hf : (ns.zip c).any (fun q => decide (q.2 < q.1)) = false) : rowMajor ns s = 0 ∧ prod c = prod ns := by
  fun_induction validReq ns s c with
  | case1 => exact ⟨rfl, rfl⟩
  | case2 n ns s0 ss c0 cs ih =>
    obtain ⟨hc, hsc, hr⟩ := hv
    simp only [List.zip_cons_cons, List.any_cons, Bool.or_eq_false_iff, decide_eq_false_iff_not] at hf
    obtain ⟨hfull, hfr⟩ := hf
    obtain ⟨hz, hp⟩ := ih hr hfr
    -- the whole dimension is taken: count = extent, hence start = 0
    obtain rfl : s0 = 0 := by omega
    obtain rfl : c0 = n := by omega
    simp [rowMajor, prod, hz, hp]
  | case3 => exact hv.elim

theorem contigScan_concat (xs : List (Nat × Nat)) (p : Nat × Nat) :
    contigScan (xs ++ [p])
      = (!xs.any (fun q => decide (q.2 < q.1)) || (decide (p.2 ≤ 1) && contigScan xs)) := by
  induction xs with
  | nil => rfl
  | cons x rest ih =>
    obtain ⟨n, c⟩ := x
    cases rest with
    | nil => by_cases h : c < n <;> simp [contigScan, h]
    | cons y ys =>
      by_cases h : c < n
      · simp [contigScan, h, Bool.and_comm, Bool.and_left_comm]
      · simpa [contigScan, h] using ih

theorem contigScan_of_full (xs : List (Nat × Nat)) (h : xs.any (fun q => decide (q.2 < q.1)) = false) :
    contigScan xs = true := by
  rcases List.eq_nil_or_concat xs with rfl | ⟨ys, p, rfl⟩
  · rfl
  · rw [List.concat_eq_append, List.any_append, Bool.or_eq_false_iff] at h
    rw [List.concat_eq_append, contigScan_concat, h.1]
    rfl

/-- is_request_contiguous runs the scan on the whole shape (`most_sig_dim = 0`) or, for a record variable
    in a file with several of them, on the dimensions after the first (`most_sig_dim = 1`, and
    `count[0] ≤ 1`): `ns`, `s`, `c` are then the shape, start and count inside one record. -/
theorem contigScan_sound (el : Nat) (ns s c : List Nat) (hv : validReq ns s c)
    (hc : contigScan (ns.zip c).reverse = true) :
    (enumIdx s c (ones ns.length)).map (fun idx => rowMajor ns idx * el)
      = consec (rowMajor ns s * el) (prod c) el := by
  fun_induction validReq ns s c with
  | case3 => exact hv.elim
  | case1 => simp [enumIdx, rowMajor, prod, consec]
  | case2 n ns s0 ss c0 cs ih =>
    obtain ⟨hc0, hsc, hr⟩ := hv
    rw [List.zip_cons_cons, List.reverse_cons, contigScan_concat, List.any_reverse] at hc
    -- `c0` copies of the inner run, `prod ns` elements apart
    have hrun (hin : contigScan (ns.zip cs).reverse = true) :
        (enumIdx (s0 :: ss) (c0 :: cs) (ones (n :: ns).length)).map (fun idx => rowMajor (n :: ns) idx * el)
        = (List.range c0).flatMap (fun i => consec ((s0 + i) * prod ns * el + rowMajor ns ss * el) (prod cs) el) := by
      -- the induction hypothesis, used from right to left, puts the inner run back as the enumeration of `ss cs`
      simp only [ones, List.length_cons, List.replicate_succ, enumIdx, List.map_flatMap, List.map_map, ← consec_shift,
        ← ih hr hin, Function.comp_def, rowMajor, Nat.mul_one, Nat.add_mul]
    cases hf : (ns.zip cs).any (fun q => decide (q.2 < q.1))
    · -- every inner dimension is taken whole: the runs are adjacent
      obtain ⟨hz, hp⟩ := validReq_full ns ss cs hr hf
      rw [hrun (contigScan_of_full _ (by rw [List.any_reverse]; exact hf))]
      simp only [rowMajor, prod, hz, hp, Nat.zero_mul, Nat.add_zero]
      rw [← flatMap_consec]
      congr 1; funext i
      rw [Nat.add_mul, Nat.add_mul, Nat.mul_assoc i]
    · -- otherwise there is one run only
      obtain ⟨h1, hin⟩ : c0 ≤ 1 ∧ _ := by simpa [hf] using hc
      obtain rfl : c0 = 1 := by omega
      rw [hrun hin]
      simp [rowMajor, prod, Nat.add_mul]

end PnVerif.Access
