import PnVerif.Model.Tools
import PnVerif.Lemmas.Encode
/-
  Lemmas about the ncvalidator model (Model/Tools.lean): each reader of a numeric field characterised once for all
  code variants and formats (`ReadsWord`); the reader run on the output of the library's writer, parser by parser
  (`Puts`); the post-pass, which accepts whatever the library's own reader accepts.
-/
namespace PnVerif.Tools
open PnVerif.Spec PnVerif.Header

theorem bind_apply {α β : Type} (p : VP α) (f : α → VP β) (s : Bytes) :
    (p >>= f) s = (match p s with
      | .ok (a, s') => f a s'
      | .error e => .error e) := rfl

theorem pure_apply {α : Type} (a : α) (s : Bytes) : (pure a : VP α) s = .ok (a, s) := rfl

theorem bind_ok {α β : Type} {p : VP α} {f : α → VP β} {s s' : Bytes} {a : α} (h : p s = .ok (a, s')) :
    (p >>= f) s = f a s' := by
  rw [bind_apply, h]

theorem bind_err {α β : Type} {p : VP α} {f : α → VP β} {s : Bytes} {e : VErr} (h : p s = .error e) :
    (p >>= f) s = .error e := by
  rw [bind_apply, h]

theorem bind_ok_iff {α β : Type} {p : VP α} {f : α → VP β} {s : Bytes} {r : β × Bytes} :
    (p >>= f) s = .ok r ↔ ∃ a s1, p s = .ok (a, s1) ∧ f a s1 = .ok r := by
  rw [bind_apply]
  cases hp : p s with
  | error e => exact ⟨fun h => (nomatch h), fun ⟨_, _, h, _⟩ => (nomatch h)⟩
  | ok q => exact ⟨fun h => ⟨q.1, q.2, rfl, h⟩, fun ⟨_, _, h1, h2⟩ => by cases h1; exact h2⟩

theorem ite_ok_iff {α : Type} {c : Prop} [Decidable c] {p q : VP α} {s : Bytes} {r : α × Bytes} :
    (if c then p else q) s = .ok r ↔ if c then p s = .ok r else q s = .ok r := by
  split <;> rfl

theorem pure_ok_iff {α : Type} {x a : α} {s s' : Bytes} : (pure x : VP α) s = .ok (a, s') ↔ s' = s ∧ a = x := by
  rw [pure_apply]
  exact ⟨fun h => (by cases h; exact ⟨rfl, rfl⟩), fun h => by rw [h.1, h.2]⟩

theorem fail_ok_iff {α : Type} {e : VErr} {s : Bytes} {r : α × Bytes} : (VP.fail e : VP α) s = .ok r ↔ False :=
  ⟨fun h => (nomatch h), False.elim⟩

theorem guard_ok_iff {α : Type} {bad : Nat → Prop} [DecidablePred bad] {g : Nat → α} {e : VErr} (v : Nat) (s : Bytes) (a : α)
    (s' : Bytes) : (if bad v then VP.fail e else pure (g v) : VP α) s = .ok (a, s') ↔ s' = s ∧ (a = g v ∧ ¬ bad v) := by
  split
  · simp only [fail_ok_iff, *, not_true_eq_false, and_false]
  · simp only [pure_ok_iff, *, not_false_eq_true, and_true]

theorem ztake_append_left {n : Nat} (x r : Bytes) (h : x.length = n) : ztake n (x ++ r) = x := by
  subst h; rw [ztake_of_le (by simp)]; simp

theorem drop_append_left {n : Nat} (x r : Bytes) (h : x.length = n) : (x ++ r).drop n = r := by
  subst h; simp

/-! ### big-endian words: `beNat` is a bijection between the `w`-byte strings and the numbers below `256 ^ w` -/

theorem beNat_cons (b : UInt8) (t : Bytes) : beNat (b :: t) = b.toNat * 256 ^ t.length + beNat t := by
  simpa [beNat] using beNat_append [b] t

theorem beNat_lt : ∀ bs : Bytes, beNat bs < 256 ^ bs.length := by
  intro bs
  induction bs with
  | nil => simp [beNat]
  | cons b t ih =>
    have := Nat.mul_le_mul_right (256 ^ t.length) (Nat.le_of_lt_succ b.toNat_lt)
    rw [beNat_cons, List.length_cons, Nat.pow_succ]
    omega

theorem beNat_inj : ∀ a b : Bytes, a.length = b.length → beNat a = beNat b → a = b := by
  intro a
  induction a with
  | nil => intro b hl _; exact (List.eq_nil_of_length_eq_zero hl.symm).symm
  | cons x a ih =>
    intro b hl h
    cases b with
    | nil => cases hl
    | cons y b =>
      have hl' : a.length = b.length := by simpa using hl
      rw [beNat_cons, beNat_cons, ← hl'] at h
      have ha := beNat_lt a
      have hb := beNat_lt b
      rw [← hl'] at hb
      -- the leading digit is the quotient by 256 ^ a.length
      have hdiv : ∀ q r : Nat, r < 256 ^ a.length → (q * 256 ^ a.length + r) / 256 ^ a.length = q := by
        intro q r hr
        rw [Nat.add_comm, Nat.add_mul_div_right _ _ (Nat.pow_pos (by decide)), Nat.div_eq_of_lt hr, Nat.zero_add]
      have hx : x.toNat = y.toNat := by
        rw [← hdiv x.toNat _ ha, h, hdiv _ _ hb]
      rw [hx] at h
      rw [UInt8.toNat_inj.mp hx, ih b hl' (by omega)]

theorem be32_beNat (bs : Bytes) (h : bs.length = 4) : be32 (beNat bs) = bs :=
  beNat_inj _ _ (by rw [be32_length, h]) (beNat_be32 _ (by have := beNat_lt bs; rwa [h] at this))

theorem be64_beNat (bs : Bytes) (h : bs.length = 8) : be64 (beNat bs) = bs :=
  beNat_inj _ _ (by rw [be64_length, h]) (beNat_be64 _ (by have := beNat_lt bs; rwa [h] at this))

theorem nnLim_le_rawLim (f : Fmt) : nnLim f ≤ rawLim f := by cases f <;> decide

theorem rawLim_eq (f : Fmt) : rawLim f = 256 ^ sizeofNonNeg f.version := by cases f <;> rfl

theorem beNat_putNonNeg (f : Fmt) {n : Nat} (h : n < rawLim f) : beNat (putNonNeg f.version n) = n := by
  cases f
  · exact beNat_be32 n h
  · exact beNat_be32 n h
  · exact beNat_be64 n h

theorem putNonNeg_beNat (f : Fmt) (bs : Bytes) (h : bs.length = sizeofNonNeg f.version) :
    putNonNeg f.version (beNat bs) = bs := by
  cases f
  · exact be32_beNat bs h
  · exact be32_beNat bs h
  · exact be64_beNat bs h

theorem beNat_putBegin (f : Fmt) {n : Nat} (h : n < offLim f) : beNat (putBegin f.version n) = n := by
  cases f
  · exact beNat_be32 n (Nat.lt_of_lt_of_le h (by decide))
  · exact beNat_be64 n (Nat.lt_of_lt_of_le h (by decide))
  · exact beNat_be64 n (Nat.lt_of_lt_of_le h (by decide))

theorem putBegin_beNat (f : Fmt) (bs : Bytes) (h : bs.length = sizeofOff f.version) :
    putBegin f.version (beNat bs) = bs := by
  cases f
  · exact be32_beNat bs h
  · exact be64_beNat bs h
  · exact be64_beNat bs h

def Puts {α : Type} (p : VP α) (bs : Bytes) (a : α) : Prop := ∀ r, p (bs ++ r) = .ok (a, r)

namespace Puts
variable {α β : Type} {p : VP α} {f : α → VP β} {bs cs : Bytes} {a : α} {b : β}

theorem bind (hp : Puts p bs a) (hf : Puts (f a) cs b) : Puts (p >>= f) (bs ++ cs) b := fun r => by
  rw [List.append_assoc, bind_ok (hp _)]; exact hf r

theorem bind_ret (hp : Puts p bs a) (hf : f a = pure b) : Puts (p >>= f) bs b := fun r => by
  rw [bind_ok (hp r), hf]; rfl

theorem of_eq {q : VP α} (h : p = q) (hq : Puts q bs a) : Puts p bs a := h ▸ hq

end Puts

/-- Every numeric field is read by `rdU32`, `rdU64` or `rdU64raw` followed by a test that depends on the code variant
    and the format.  `val a`: the numeric field of the result (`Prod.fst` for `vDimid`, `NcType.code` for `vType`). -/
def ReadsWord {α : Type} (val : α → Nat) (p : VP α) (w : Nat) (P : α → Prop) : Prop :=
  ∀ s a s', p s = .ok (a, s') ↔ (val a = beNat (ztake w s) ∧ s' = s.drop w) ∧ P a

namespace ReadsWord
variable {α : Type} {val : α → Nat} {p : VP α} {w : Nat} {P : α → Prop}

theorem puts (h : ReadsWord val p w P) {bs : Bytes} {a : α} (hl : bs.length = w) (hv : beNat bs = val a) (hp : P a) :
    Puts p bs a := fun r =>
  (h _ _ _).mpr ⟨⟨by rw [ztake_append_left bs r hl, hv], (drop_append_left bs r hl).symm⟩, hp⟩

/-- `k`: what the caller still needs after the word; handing the bound on spares a chain of readers all arithmetic -/
theorem inv (h : ReadsWord val p w P) {enc : Nat → Bytes} (henc : ∀ bs : Bytes, bs.length = w → enc (beNat bs) = bs)
    {s s' : Bytes} {a : α} {k : Nat} (hr : p s = .ok (a, s')) (hl : w + k ≤ s.length) :
    s = enc (val a) ++ s' ∧ k ≤ s'.length := by
  obtain ⟨⟨hv, rfl⟩, _⟩ := (h _ _ _).mp hr
  have hw : w ≤ s.length := by omega
  refine ⟨?_, by rw [List.length_drop]; omega⟩
  rw [hv, ztake_of_le hw, henc _ (by rw [List.length_take]; omega), List.take_append_drop]

theorem acc (h : ReadsWord val p w P) {s s' : Bytes} {a : α} (hr : p s = .ok (a, s')) : P a := ((h _ _ _).mp hr).2

theorem lt (h : ReadsWord val p w P) {s s' : Bytes} {a : α} (hr : p s = .ok (a, s')) : val a < 256 ^ w := by
  rw [((h _ _ _).mp hr).1.1]
  simpa using beNat_lt (ztake w s)

theorem congr {Q : α → Prop} (h : ReadsWord val p w P) (hq : ∀ a, P a ↔ Q a) : ReadsWord val p w Q :=
  fun s a s' => by rw [h s a s', hq]

/-- `κ` consumes nothing and its result determines the word back (`hv`) -/
theorem bind {p : VP Nat} {P : Nat → Prop} (hp : ReadsWord (fun n => n) p w P) {κ : Nat → VP α} {R : Nat → α → Prop}
    (hκ : ∀ v s a s', κ v s = .ok (a, s') ↔ s' = s ∧ R v a) (hv : ∀ v a, R v a → val a = v) :
    ReadsWord val (p >>= κ) w (fun a => P (val a) ∧ R (val a) a) := by
  intro s a s'
  constructor
  · intro h
    obtain ⟨v, s1, h1, h2⟩ := bind_ok_iff.mp h
    obtain ⟨⟨hv1, rfl⟩, hP⟩ := (hp _ _ _).mp h1
    obtain ⟨rfl, hR⟩ := (hκ _ _ _ _).mp h2
    obtain rfl := hv v a hR
    exact ⟨⟨hv1, rfl⟩, hP, hR⟩
  · intro ⟨hw, hP, hR⟩
    rw [bind_ok ((hp s (val a) s').mpr ⟨hw, hP⟩)]
    exact (hκ _ _ _ _).mpr ⟨rfl, hR⟩

end ReadsWord

theorem readsWord_rdU32 : ReadsWord (fun n => n) rdU32 4 (fun _ => True) := fun s a s' => by
  simp only [rdU32, Except.ok.injEq, Prod.mk.injEq, and_true, eq_comm]

theorem readsWord_rdU64raw : ReadsWord (fun n => n) rdU64raw 8 (fun _ => True) := fun s a s' => by
  simp only [rdU64raw, Except.ok.injEq, Prod.mk.injEq, and_true, eq_comm]

theorem readsWord_rdU64 : ReadsWord (fun n => n) rdU64 8 (fun n => n < 9223372036854775808) := fun s a s' => by
  unfold rdU64
  simp only []
  split
  · constructor
    · intro h; cases h
    · intro ⟨⟨h1, _⟩, h2⟩; omega
  · simp only [Except.ok.injEq, Prod.mk.injEq]
    constructor
    · intro ⟨h1, h2⟩; subst h1 h2; exact ⟨⟨rfl, rfl⟩, by omega⟩
    · intro ⟨⟨h1, h2⟩, _⟩; exact ⟨h1.symm, h2.symm⟩

/-! the literals of the C tests: INT_MAX, the first 64-bit word with the sign bit, the all-ones words (STREAMING) -/
theorem nnLim_cdf1 : nnLim .cdf1 = 2147483647 + 1 := rfl
theorem nnLim_cdf2 : nnLim .cdf2 = 2147483647 + 1 := rfl
theorem nnLim_cdf5 : nnLim .cdf5 = 9223372036854775808 := rfl
theorem rawLim_cdf1 : rawLim .cdf1 = 4294967295 + 1 := rfl
theorem rawLim_cdf2 : rawLim .cdf2 = 4294967295 + 1 := rfl
theorem rawLim_cdf5 : rawLim .cdf5 = 18446744073709551615 + 1 := rfl
theorem offLim_cdf1 : offLim .cdf1 = 2147483647 + 1 := rfl
theorem offLim_cdf2 : offLim .cdf2 = 9223372036854775808 := rfl
theorem offLim_cdf5 : offLim .cdf5 = 9223372036854775808 := rfl

theorem rdField_word (f : Fmt) : ReadsWord (fun n => n) (if f.version < 5 then rdU32 else rdU64) (sizeofNonNeg f.version)
    (fun n => f = .cdf5 → n < nnLim f) := by
  cases f
  · exact readsWord_rdU32.congr (fun n => by simp)
  · exact readsWord_rdU32.congr (fun n => by simp)
  · exact readsWord_rdU64.congr (fun n => by simp [nnLim_cdf5])

theorem rdRaw_word (f : Fmt) : ReadsWord (fun n => n) (if f.version < 5 then rdU32 else rdU64raw) (sizeofNonNeg f.version)
    (fun _ => True) := by
  cases f
  · exact readsWord_rdU32
  · exact readsWord_rdU32
  · exact readsWord_rdU64raw

theorem vNonNeg_word (c : VCfg) (f : Fmt) : ReadsWord (fun n => n) (vNonNeg c f.version) (sizeofNonNeg f.version)
    (fun n => c.strictSign = true ∨ f = .cdf5 → n < nnLim f) := by
  obtain ⟨sl, ss, st, d64⟩ := c
  cases ss
  · exact (rdField_word f).congr (fun n => by simp)
  cases f
  · exact (readsWord_rdU32.bind guard_ok_iff (fun _ _ h => h.1)).congr (fun n => by simp [nnLim_cdf1]; omega)
  · exact (readsWord_rdU32.bind guard_ok_iff (fun _ _ h => h.1)).congr (fun n => by simp [nnLim_cdf2]; omega)
  · exact (readsWord_rdU64raw.bind guard_ok_iff (fun _ _ h => h.1)).congr (fun n => by simp [nnLim_cdf5])

theorem vVsize_word (c : VCfg) (f : Fmt) : ReadsWord (fun n => n) (vVsize c f.version) (sizeofNonNeg f.version)
    (fun n => c.strictSign = false → f = .cdf5 → n < nnLim f) := by
  obtain ⟨sl, ss, st, d64⟩ := c
  cases ss
  · exact (rdField_word f).congr (fun n => by simp)
  · exact (rdRaw_word f).congr (fun n => by simp)

theorem vNumrecs_word (c : VCfg) (f : Fmt) : ReadsWord (fun n => n) (vNumrecs c f.version) (sizeofNonNeg f.version)
    (fun n => if c.strictSign = true then n < nnLim f ∨ n + 1 = rawLim f else f = .cdf5 → n < nnLim f) := by
  obtain ⟨sl, ss, st, d64⟩ := c
  cases ss
  · exact (rdField_word f).congr (fun n => by simp)
  cases f
  · exact (readsWord_rdU32.bind guard_ok_iff (fun _ _ h => h.1)).congr (fun n => by simp [nnLim_cdf1, rawLim_cdf1]; omega)
  · exact (readsWord_rdU32.bind guard_ok_iff (fun _ _ h => h.1)).congr (fun n => by simp [nnLim_cdf2, rawLim_cdf2]; omega)
  · exact (readsWord_rdU64raw.bind guard_ok_iff (fun _ _ h => h.1)).congr (fun n => by simp [nnLim_cdf5, rawLim_cdf5]; omega)

theorem vBegin_word (c : VCfg) (f : Fmt) : ReadsWord (fun n => n) (vBegin c f.version) (sizeofOff f.version)
    (fun n => c.strictSign = true ∨ f ≠ .cdf1 → n < offLim f) := by
  obtain ⟨sl, ss, st, d64⟩ := c
  cases ss <;> cases f
  · exact readsWord_rdU32.congr (fun n => by simp)
  · exact readsWord_rdU64.congr (fun n => by simp [offLim_cdf2])
  · exact readsWord_rdU64.congr (fun n => by simp [offLim_cdf5])
  · exact (readsWord_rdU32.bind guard_ok_iff (fun _ _ h => h.1)).congr (fun n => by simp [offLim_cdf1]; omega)
  · exact (readsWord_rdU64raw.bind guard_ok_iff (fun _ _ h => h.1)).congr (fun n => by simp [offLim_cdf2])
  · exact (readsWord_rdU64raw.bind guard_ok_iff (fun _ _ h => h.1)).congr (fun n => by simp [offLim_cdf5])

theorem dimidC_small {id : Nat} (h : id < 2147483648) : dimidC id = some id := by
  unfold dimidC
  rw [Nat.mod_eq_of_lt (by omega)]
  exact if_neg (by omega)

theorem dimidTest_ok_iff (nd v : Nat) (s : Bytes) (a : Nat × VFlags) (s' : Bytes) :
    (match dimidC v with
      | some d => if d ≥ nd then VP.fail .ebaddim else pure (v, VFlags.ok)
      | none => pure (v, VFlags.ok) : VP (Nat × VFlags)) s = .ok (a, s') ↔
    s' = s ∧ (a = (v, VFlags.ok) ∧ ∀ d, dimidC v = some d → d < nd) := by
  cases dimidC v with
  | none => simp [pure_ok_iff]
  | some d => simp only [guard_ok_iff (g := fun _ => (v, VFlags.ok)), Option.some.injEq, forall_eq', Nat.not_le, ge_iff_le]

theorem vDimid_word (c : VCfg) (f : Fmt) (nd : Nat) : ReadsWord Prod.fst (vDimid c f.version nd) (sizeofNonNeg f.version)
    (fun a => a.2 = VFlags.ok ∧
      if c.dimid64 = true then a.1 < nd else (f = .cdf5 → a.1 < nnLim f) ∧ ∀ d, dimidC a.1 = some d → d < nd) := by
  have hfl : ∀ a : Nat × VFlags, a = (a.1, VFlags.ok) ↔ a.2 = VFlags.ok := fun ⟨_, _⟩ => by simp
  obtain ⟨sl, ss, st, d64⟩ := c
  cases d64
  · exact ((rdField_word f).bind (dimidTest_ok_iff nd) (fun _ _ h => by rw [h.1])).congr (fun a => by
      -- reorders the conjuncts: the flag first, as in the statement
      simp [hfl, and_left_comm])
  · exact ((rdRaw_word f).bind guard_ok_iff (fun _ _ h => by rw [h.1])).congr (fun a => by simp [hfl])

/-- bound of the vsize field as the validator reads it (hdr_get_NON_NEG): any 32-bit word, a 64-bit word
    without sign bit -/
def vsizeLim (f : Fmt) : Nat := match f with | .cdf5 => 2 ^ 63 | _ => 2 ^ 32

theorem vNonNeg_put (c : VCfg) (f : Fmt) (n : Nat) (h : n < nnLim f) :
    Puts (vNonNeg c f.version) (putNonNeg f.version n) n :=
  (vNonNeg_word c f).puts (putNonNeg_length f n) (beNat_putNonNeg f (Nat.lt_of_lt_of_le h (nnLim_le_rawLim f))) (fun _ => h)

theorem vNumrecs_put (c : VCfg) (f : Fmt) (n : Nat) (h : n < nnLim f) :
    Puts (vNumrecs c f.version) (putNonNeg f.version n) n :=
  (vNumrecs_word c f).puts (putNonNeg_length f n) (beNat_putNonNeg f (Nat.lt_of_lt_of_le h (nnLim_le_rawLim f)))
    (by split; exact Or.inl h; exact fun _ => h)

theorem vBegin_put (c : VCfg) (f : Fmt) (n : Nat) (h : n < offLim f) : Puts (vBegin c f.version) (putBegin f.version n) n :=
  (vBegin_word c f).puts (putBegin_length f n) (beNat_putBegin f h) (fun _ => h)

theorem vVsize_put (c : VCfg) (f : Fmt) (n : Nat) (h : n < vsizeLim f) : Puts (vVsize c f.version) (putNonNeg f.version n) n :=
  (vVsize_word c f).puts (putNonNeg_length f n)
    (beNat_putNonNeg f (Nat.lt_of_lt_of_le h (by cases f <;> decide))) (fun _ hf => by subst hf; exact h)

theorem vDimid_put (c : VCfg) (f : Fmt) (nd id : Nat) (h : id < nd) (hnd : nd ≤ 2147483647) :
    Puts (vDimid c f.version nd) (putNonNeg f.version id) (id, VFlags.ok) :=
  have h31 : id < 2147483648 := by omega
  (vDimid_word c f nd).puts (putNonNeg_length f id) (beNat_putNonNeg f (Nat.lt_of_lt_of_le h31 (by cases f <;> decide)))
    ⟨rfl, by
      split
      · exact h
      · exact ⟨fun hf => by subst hf; exact Nat.lt_of_lt_of_le h31 (by decide),
          fun d hd => by rw [dimidC_small h31] at hd; cases hd; exact h⟩⟩

theorem rdBytes_put {n : Nat} (x : Bytes) (h : x.length = n) : Puts (rdBytes n) x x := fun r => by
  unfold rdBytes
  rw [ztake_append_left x r h, drop_append_left x r h]

theorem allZero_nil : allZero [] = true := rfl

theorem allZero_zeros (n : Nat) : allZero (zeros n) = true := by
  simp [allZero, zeros]

/-- the padding test `if padding > 0` of hdr_get_name and val_get_NC_attrV is redundant: reading no byte gives
    the same result -/
theorem rdPad_if {β : Type} (k : Nat) (g : Bytes → β) (y : β) (hy : g [] = y) :
    (if k > 0 then rdBytes k >>= (fun pad => pure (g pad)) else pure y : VP β) = rdBytes k >>= fun pad => pure (g pad) := by
  split
  · rfl
  · have : k = 0 := by omega
    subst this
    funext s
    simp [bind_apply, rdBytes, ztake, zeros, hy, pure_apply]

theorem rndup_sub (n : Nat) : rndup n 4 - n = if n % 4 ≠ 0 then 4 - n % 4 else 0 := by
  unfold rndup; split <;> omega

theorem vName_eq (c : VCfg) (ver : Nat) : vName c ver = (do
    let nchars ← vNonNeg c ver
    let s ← rdBytes nchars
    let pad ← rdBytes (rndup nchars 4 - nchars)
    pure (s, allZero pad)) := by
  unfold vName
  refine congrArg (vNonNeg c ver >>= ·) (funext fun nchars => ?_)
  refine congrArg (rdBytes nchars >>= ·) (funext fun s => ?_)
  exact rdPad_if _ (fun pad => (s, allZero pad)) (s, true) rfl

theorem vName_put (c : VCfg) (f : Fmt) (nm : Bytes) (h0 : NoNul nm) (hl : nm.length < nnLim f) :
    Puts (vName c f.version) (putName f.version nm) (nm, true) := by
  rw [vName_eq]
  unfold putName
  simp only [cstr_eq_self h0, List.append_assoc]
  exact (vNonNeg_put c f _ hl).bind ((rdBytes_put nm rfl).bind
    ((rdBytes_put (zeros _) (by rw [zeros_length, rndup_sub])).bind_ret (by rw [allZero_zeros])))

@[simp] theorem VFlags.and_ok_ok : VFlags.ok.and VFlags.ok = VFlags.ok := rfl
@[simp] theorem VFlags.ofPad_true : VFlags.ofPad true = VFlags.ok := rfl

theorem vDim_put (c : VCfg) (f : Fmt) (d : Dim) (hu : Bool) (h : DimWF f d) (hok : ¬ (hu = true ∧ d.size = 0)) :
    Puts (vDim c f.version hu) (putDim f.version d) (d, VFlags.ok) := by
  unfold vDim putDim
  exact (vName_put c f d.name h.nul h.nameLen).bind ((vNonNeg_put c f d.size h.size).bind_ret (if_neg hok))

/-- the flag takes over the record dimension just read, so the count does not grow down the loop -/
theorem oneRec_cons {hu : Bool} {d : Dim} {t : List Dim}
    (h : ((d :: t).filter (fun x => x.size == 0)).length + (if hu then 1 else 0) ≤ 1) :
    ¬ (hu = true ∧ d.size = 0) ∧
      (t.filter (fun x => x.size == 0)).length + (if (hu || d.size == 0) = true then 1 else 0) ≤ 1 := by
  rw [List.filter_cons] at h
  cases hu <;> by_cases hd : d.size = 0 <;> simp [hd] at h ⊢ <;> omega

/-- the dimension loop on the writer's output: at most one record dimension in `hu :: ds` -/
theorem vDims_put (c : VCfg) (f : Fmt) : ∀ (ds : List Dim) (hu : Bool), (∀ d ∈ ds, DimWF f d) →
    (ds.filter (fun x => x.size == 0)).length + (if hu then 1 else 0) ≤ 1 →
    Puts (vDims c f.version ds.length hu) (ds.flatMap (putDim f.version)) (ds, VFlags.ok) := by
  intro ds
  induction ds with
  | nil => intro hu _ _ r; rfl
  | cons d t ih =>
    intro hu hw h1
    simp only [List.length_cons, vDims, List.flatMap_cons]
    exact (vDim_put c f d hu (hw d (List.mem_cons_self ..)) (oneRec_cons h1).1).bind
      ((ih (hu || d.size == 0) (fun x hx => hw x (List.mem_cons_of_mem _ hx)) (oneRec_cons h1).2).bind_ret rfl)

theorem vTag_word : ReadsWord (fun n => n) vTag 4 (fun t => t = 0 ∨ t = 10 ∨ t = 11 ∨ t = 12) :=
  (readsWord_rdU32.bind (R := fun v a => a = v ∧ (v = 0 ∨ v = 10 ∨ v = 11 ∨ v = 12))
    (fun v s a s' => by split <;> simp only [pure_ok_iff, fail_ok_iff, *, and_true, and_false])
    (fun _ _ h => h.1)).congr (fun t => by simp)

theorem vTag_put (t : Nat) (h : t = 0 ∨ t = 10 ∨ t = 11 ∨ t = 12) : Puts vTag (be32 t) t :=
  vTag_word.puts rfl (beNat_be32 t (by omega)) h

theorem vArray_put (c : VCfg) {α : Type} (f : Fmt) {tag maxN : Nat} {errMax : VErr} (htag : tag = 10 ∨ tag = 11 ∨ tag = 12)
    {items : Nat → VP (List α × VFlags)} {enc : α → Bytes} {xs : List α}
    (hn : xs.length < nnLim f) (hm : xs.length ≤ maxN)
    (hi : xs.length ≠ 0 → Puts (items xs.length) (xs.flatMap enc) (xs, VFlags.ok)) :
    Puts (vArray c f.version tag maxN errMax items)
      (if xs.length = 0 then be32 0 ++ putNonNeg f.version 0
        else be32 tag ++ putNonNeg f.version xs.length ++ xs.flatMap enc) (xs, VFlags.ok) := by
  unfold vArray
  by_cases h0 : xs.length = 0
  · obtain rfl := List.eq_nil_of_length_eq_zero h0
    exact (vTag_put 0 (Or.inl rfl)).bind ((vNonNeg_put c f 0 (by cases f <;> decide)).bind_ret (by simp [VFlags.ok]))
  · rw [if_neg h0, List.append_assoc]
    exact (vTag_put tag (Or.inr htag)).bind ((vNonNeg_put c f _ hn).bind
      (.of_eq (by rw [if_neg (Nat.not_lt.mpr hm), if_neg h0, if_neg (not_not_intro rfl)]) (hi h0)))

theorem okFor_iff (t : NcType) (f : Fmt) : t.okFor f = true ↔ ¬ (f.version < 5 ∧ t.code > 6) := by
  cases f <;> simp [NcType.okFor, Fmt.version]

theorem vTypeTest_ok_iff (f : Fmt) (v : Nat) (s : Bytes) (t : NcType) (s' : Bytes) :
    (if v < 1 then VP.fail .ebadtype
      else if f.version < 5 ∧ v > 6 then VP.fail .ebadtype
      else if ¬ f.version < 5 ∧ v > 11 then VP.fail .ebadtype
      else match NcType.ofCode v with
        | some t => pure t
        | none => VP.fail .ebadtype : VP NcType) s = .ok (t, s') ↔ s' = s ∧ (t.code = v ∧ t.okFor f = true) := by
  cases ho : NcType.ofCode v with
  | none =>
    have : ¬ t.code = v := fun h => by rw [← h, ofCode_code] at ho; cases ho
    simp only [ite_self, fail_ok_iff, this, false_and, and_false]
  | some t' =>
    obtain ⟨rfl, h1, h11⟩ := ofCode_some ho
    have hc : t.code = t'.code ↔ t = t' :=
      ⟨fun h => Option.some.inj (by rw [← ofCode_code t, h, ofCode_code]), fun h => by rw [h]⟩
    simp only [show ¬ t'.code < 1 by omega, show ¬ (¬ f.version < 5 ∧ t'.code > 11) by omega, if_false]
    rw [guard_ok_iff (bad := fun x => f.version < 5 ∧ x > 6) (g := fun _ => t'), okFor_iff, hc]
    exact and_congr_right fun _ => and_congr_right fun h => by rw [h]

theorem vType_word (f : Fmt) : ReadsWord NcType.code (vType f.version) 4 (fun t => t.okFor f = true) :=
  (readsWord_rdU32.bind (vTypeTest_ok_iff f) (fun _ _ h => h.1)).congr (fun t => by simp)

theorem vType_put (f : Fmt) (t : NcType) (h : t.okFor f = true) : Puts (vType f.version) (be32 t.code) t :=
  (vType_word f).puts rfl (beNat_be32 t.code (by cases t <;> decide)) h

theorem vAttr_eq (c : VCfg) (ver : Nat) : vAttr c ver = (do
    let (name, ok1) ← vName c ver
    let type ← vType ver
    let nelems ← vNonNeg c ver
    let value ← rdBytes (nelems * type.size)
    let pad ← rdBytes ((if nelems > 0 then xlenAttrV type nelems else 0) - nelems * type.size)
    pure ({ name := name, xtype := type, nelems := nelems, xvalue := value }, VFlags.ofPad (ok1 && allZero pad))) := by
  unfold vAttr
  refine congrArg (vName c ver >>= ·) (funext fun ⟨name, ok1⟩ => ?_)
  refine congrArg (vType ver >>= ·) (funext fun type => ?_)
  refine congrArg (vNonNeg c ver >>= ·) (funext fun nelems => ?_)
  refine congrArg (rdBytes _ >>= ·) (funext fun value => ?_)
  exact rdPad_if _ (fun pad => (_, VFlags.ofPad (ok1 && allZero pad))) _ (by rw [allZero_nil, Bool.and_true])

theorem vAttr_put (c : VCfg) (f : Fmt) (a : Att) (h : AttWF f a) :
    Puts (vAttr c f.version) (putAttr f.version a) (a, VFlags.ok) := by
  rw [vAttr_eq]
  unfold putAttr
  rw [putAttrV_eq a h.value]
  simp only [List.append_assoc]
  exact (vName_put c f a.name h.nul h.nameLen).bind ((vType_put f a.xtype h.typeOk).bind
    ((vNonNeg_put c f a.nelems h.nelems).bind ((rdBytes_put a.xvalue h.value).bind
      ((rdBytes_put (zeros _) (by rw [zeros_length, h.value]; exact (attr_pad_eq a.xtype a.nelems).symm)).bind_ret
        (by rw [allZero_zeros]; rfl)))))

theorem vN_put {α : Type} {item : VP (α × VFlags)} {enc : α → Bytes} {WF : α → Prop}
    (h : ∀ x, WF x → Puts item (enc x) (x, VFlags.ok)) :
    ∀ xs : List α, (∀ x ∈ xs, WF x) → Puts (vN item xs.length) (xs.flatMap enc) (xs, VFlags.ok) := by
  intro xs
  induction xs with
  | nil => intro _ r; rfl
  | cons x t ih =>
    intro hw
    simp only [List.length_cons, vN, List.flatMap_cons]
    exact (h x (hw x (List.mem_cons_self ..))).bind ((ih (fun y hy => hw y (List.mem_cons_of_mem _ hy))).bind_ret rfl)

theorem vAttrArray_put (c : VCfg) (f : Fmt) (as : List Att) (hn : as.length < nnLim f) (hm : as.length ≤ NC_MAX_ATTRS)
    (hw : ∀ a ∈ as, AttWF f a) : Puts (vAttrArray c f.version) (putAttrArray f.version as) (as, VFlags.ok) :=
  vArray_put c f (Or.inr (Or.inr rfl)) hn hm
    (fun _ => vN_put (vAttr_put c f) as hw)

/-- what the validator needs of a variable beyond `VarWF`: its own limits and the modelled domain -/
structure VarV (f : Fmt) (nd : Nat) (v : Var) : Prop where
  wf     : VarWF f v
  ndims  : v.dimids.length ≤ NC_MAX_VAR_DIMS
  dimids : ∀ id ∈ v.dimids, id < nd
  natts  : v.atts.length ≤ NC_MAX_ATTRS
  vsize  : v.vsize < vsizeLim f

theorem vVar_put (c : VCfg) (f : Fmt) (nd : Nat) (hnd : nd ≤ 2147483647) (v : Var) (h : VarV f nd v) :
    Puts (vVar c f.version nd) (putVar f.version v) (v, VFlags.ok) := by
  unfold vVar putVar
  simp only [List.append_assoc]
  exact (vName_put c f v.name h.wf.nul h.wf.nameLen).bind ((vNonNeg_put c f _ h.wf.ndims).bind
    (.of_eq (if_neg (Nat.not_lt.mpr h.ndims))
      ((vN_put (fun x hx => vDimid_put c f nd x hx hnd) v.dimids h.dimids).bind
        ((vAttrArray_put c f v.atts h.wf.natts h.natts h.wf.atts).bind ((vType_put f v.xtype h.wf.typeOk).bind
          ((vVsize_put c f v.vsize h.vsize).bind ((vBegin_put c f v.begin h.wf.begin).bind_ret rfl)))))))

/-- headers inside the validator's limits (counts ≤ NC_MAX_INT, one record dimension, dimension ids in range)
    and inside the modelled domain (vsize field without sign bit) -/
structure VLimits (d : Schema) : Prop where
  ndims  : d.dims.length ≤ NC_MAX_DIMS
  oneRec : (d.dims.filter (fun x => x.size == 0)).length ≤ 1
  ngatts : d.gatts.length ≤ NC_MAX_ATTRS
  nvars  : d.vars.length ≤ NC_MAX_VARS
  vars   : ∀ v ∈ d.vars, v.dimids.length ≤ NC_MAX_VAR_DIMS ∧ (∀ id ∈ v.dimids, id < d.dims.length) ∧
             v.atts.length ≤ NC_MAX_ATTRS ∧ v.vsize < vsizeLim d.fmt

theorem VLimits.varV {d : Schema} (hl : VLimits d) (he : Encodable d) {v : Var} (hv : v ∈ d.vars) :
    VarV d.fmt d.dims.length v :=
  have ⟨h1, h2, h3, h4⟩ := hl.vars v hv
  ⟨he.vars v hv, h1, h2, h3, h4⟩

theorem vBody_put (c : VCfg) (d : Schema) (he : Encodable d) (hl : VLimits d) :
    Puts (vBody c d.fmt) (putNonNeg d.fmt.version d.numrecs ++ (putDimArray d.fmt.version d.dims ++
      (putAttrArray d.fmt.version d.gatts ++ putVarArray d.fmt.version d.vars))) (d, VFlags.ok) := by
  have hnd : d.dims.length ≤ 2147483647 := hl.ndims
  unfold vBody
  exact (vNumrecs_put c d.fmt _ he.numrecs).bind
    ((vArray_put c d.fmt (Or.inl rfl) he.ndims hl.ndims
        (fun _ => vDims_put c d.fmt d.dims false he.dims (by simpa using hl.oneRec))).bind
      ((vAttrArray_put c d.fmt d.gatts he.ngatts hl.ngatts he.gatts).bind
        ((vArray_put c d.fmt (Or.inr (Or.inl rfl)) he.nvars hl.nvars (fun _ => vN_put (vVar_put c d.fmt d.dims.length hnd) d.vars
              (fun _ hv => hl.varV he hv))).bind_ret
          rfl)))

theorem vShapeOf_of (dims : List Dim) : ∀ (ids : List Nat) (i : Nat) (sh : List Nat),
    (∀ id ∈ ids, id < 2147483648) → shapeOf dims ids i = .ok sh → vShapeOf dims ids i = .ok sh := by
  intro ids
  induction ids with
  | nil => intro i sh _ h; unfold shapeOf at h; unfold vShapeOf; cases h; rfl
  | cons id t ih =>
    intro i sh hs h
    unfold shapeOf at h
    unfold vShapeOf
    rw [dimidC_small (hs id (List.mem_cons_self ..))]
    split at h
    · cases h
    rename_i dm hd
    simp only [hd]
    split at h
    · cases h
    rename_i hu
    rw [if_neg hu]
    split at h
    · rename_i sh' hr
      rw [ih _ _ (fun x hx => hs x (List.mem_cons_of_mem _ hx)) hr]
      cases h; rfl
    · cases h

theorem vVarShape64_of (dims : List Dim) (v : Var) (r : List Nat × Nat)
    (hs : ∀ id ∈ v.dimids, id < 2147483648) (h : varShape64 dims v = .ok r) : vVarShape64 dims v = .ok r := by
  unfold varShape64 at h
  unfold vVarShape64
  split at h
  · cases h
  rename_i sh hr
  rw [vShapeOf_of dims _ 0 sh hs hr]
  split at h
  · cases h
  · cases h; rfl

theorem vDimidsOk_of (nd : Nat) (ids : List Nat) (h : ∀ id ∈ ids, id < nd) (hnd : nd ≤ 2147483647) :
    vDimidsOk nd ids = true := by
  unfold vDimidsOk
  rw [List.all_eq_true]
  intro id hid
  rw [dimidC_small (by have := h id hid; omega)]
  exact decide_eq_true (h id hid)

theorem vCvsLoop_of (dims : List Dim) (hnd : dims.length ≤ 2147483647) : ∀ (vs : List Var) (st st' : CvsState),
    (∀ v ∈ vs, ∀ id ∈ v.dimids, id < dims.length) → cvsLoop dims vs st = .ok st' → vCvsLoop dims vs st = .ok st' := by
  intro vs
  induction vs with
  | nil => intro st st' _ h; unfold cvsLoop at h; unfold vCvsLoop; cases h; rfl
  | cons v t ih =>
    intro st st' hd h
    have hv := hd v (List.mem_cons_self ..)
    have ht := fun x hx => hd x (List.mem_cons_of_mem _ hx)
    unfold cvsLoop at h
    unfold vCvsLoop
    rw [if_neg (not_not_intro (vDimidsOk_of dims.length v.dimids hv hnd))]
    split at h
    · cases h
    rename_i shape len hr
    rw [vVarShape64_of dims v _ (fun id hid => by have := hv id hid; omega) hr]
    simp only [] at h ⊢
    split at h
    · rename_i hrec; rw [if_pos hrec]; exact ih _ _ ht h
    · rename_i hrec; rw [if_neg hrec]; exact ih _ _ ht h

theorem vComputeVarShape_of (h : Hdr) (xsz : Nat) (r : Nat × Nat × Nat × List (List Nat) × List Nat)
    (hnd : h.dims.length ≤ 2147483647) (hd : ∀ v ∈ h.vars, ∀ id ∈ v.dimids, id < h.dims.length)
    (hc : computeVarShape h xsz = .ok r) : vComputeVarShape h xsz = .ok r := by
  unfold computeVarShape at hc
  unfold vComputeVarShape
  split at hc
  · rename_i h0; rw [if_pos h0]; cases hc; rfl
  rename_i h0
  rw [if_neg h0]
  split at hc
  · cases hc
  rename_i st hl
  rw [vCvsLoop_of h.dims hnd h.vars _ st hd hl]
  simp only []
  rw [hc]

theorem vPostPass_of (h : Hdr) (info : Info) (hnd : h.dims.length ≤ 2147483647)
    (hd : ∀ v ∈ h.vars, ∀ id ∈ v.dimids, id < h.dims.length) (hp : postPass h = .ok info) :
    vPostPass h = .ok info := by
  unfold postPass at hp
  unfold vPostPass
  simp only [] at hp ⊢
  split at hp
  · cases hp
  rename_i bv br rs shapes lens hc
  rw [vComputeVarShape_of h h.len _ hnd hd hc]
  simp only []
  split at hp
  · cases hp
  rename_i hv
  rw [hv]
  simp only []
  split at hp
  · cases hp
  rename_i ho
  rw [ho]
  cases hp; rfl

theorem vMagic_put (d : Schema) (rest : Bytes) : vMagic (encodeRaw d ++ rest) = .ok d.fmt := by
  have hlen : ¬ (encodeRaw d ++ rest).length < 8 := by
    unfold encodeRaw
    simp only [List.length_append, putNonNeg_length]
    have : (magicBytes d.fmt).length = 4 := by simp [magicBytes]
    have : 4 ≤ sizeofNonNeg d.fmt.version := by unfold sizeofNonNeg; split <;> omega
    omega
  unfold vMagic
  rw [if_neg hlen]
  unfold encodeRaw
  cases d.fmt <;> simp [magicBytes, Fmt.version]

/-- the validator's header reader returns exactly the header that was written, all padding null, and the
    layout the library's reader derives -/
theorem vGetNC_put (c : VCfg) (d : Schema) (rest : Bytes) (info : Info) (he : Encodable d) (hl : VLimits d)
    (hp : postPass d = .ok info) : vGetNC c (encodeRaw d ++ rest) = .ok (d, info, VFlags.ok) := by
  have hb := vBody_put c d he hl rest
  unfold vGetNC
  rw [vMagic_put]
  unfold encodeRaw
  simp only [List.append_assoc] at hb ⊢
  rw [drop_append_left (n := 4) (magicBytes d.fmt) _ rfl, hb]
  simp only []
  rw [vPostPass_of d info hl.ndims (fun v hv => (hl.vars v hv).2.1) hp]

end PnVerif.Tools
