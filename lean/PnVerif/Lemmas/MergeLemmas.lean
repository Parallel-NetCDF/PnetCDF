import PnVerif.Model.Merge
namespace PnVerif.Merge

/-- sorted by offset -/
def Sorted (l : List Seg) : Prop := List.Pairwise (fun a b => a.off ≤ b.off) l
/-- every segment has positive length (zero-length requests are never queued) -/
def Pos (l : List Seg) : Prop := ∀ s ∈ l, 0 < s.len
/-- sorted and pairwise non-overlapping: each segment ends before the next one starts -/
def Disj (l : List Seg) : Prop := List.Pairwise (fun a b => a.off + a.len ≤ b.off) l
/-- pairwise non-overlapping in any order -/
def SymDisj (l : List Seg) : Prop :=
  List.Pairwise (fun a b => a.off + a.len ≤ b.off ∨ b.off + b.len ≤ a.off) l

theorem ins_perm (s : Seg) (l : List Seg) : (ins s l).Perm (s :: l) := by
  induction l with
  | nil => simp [ins]
  | cons t ts ih =>
    unfold ins
    split
    · exact List.Perm.refl _
    · exact (List.Perm.cons t ih).trans (List.Perm.swap s t ts)

theorem sortSegs_perm (l : List Seg) : (sortSegs l).Perm l := by
  induction l with
  | nil => simp [sortSegs]
  | cons s rest ih =>
    unfold sortSegs
    exact (ins_perm s _).trans (List.Perm.cons s ih)

theorem ins_sorted (s : Seg) (l : List Seg) (h : Sorted l) : Sorted (ins s l) := by
  induction l with
  | nil => simp [ins, Sorted]
  | cons t ts ih =>
    have ht := List.pairwise_cons.mp h
    unfold ins
    split
    · rename_i hle
      exact List.pairwise_cons.mpr ⟨List.forall_mem_cons.mpr ⟨hle, fun x hx => Int.le_trans hle (ht.1 x hx)⟩, h⟩
    · refine List.pairwise_cons.mpr ⟨fun x hx => ?_, ih ht.2⟩
      rcases List.mem_cons.mp ((ins_perm s ts).mem_iff.mp hx) with rfl | hx
      · omega
      · exact ht.1 x hx

theorem sortSegs_sorted (l : List Seg) : Sorted (sortSegs l) := by
  induction l with
  | nil => simp [sortSegs, Sorted]
  | cons s rest ih => unfold sortSegs; exact ins_sorted s _ ih

theorem isSorted_sorted (l : List Seg) (h : isSorted l = true) : Sorted l := by
  induction l with
  | nil => simp [Sorted]
  | cons a rest ih =>
    cases rest with
    | nil => simp [Sorted]
    | cons b rest2 =>
      unfold isSorted at h
      split at h
      · exact absurd h (by simp)
      · have hs := ih h
        have hb := List.pairwise_cons.mp hs
        exact List.pairwise_cons.mpr
          ⟨List.forall_mem_cons.mpr ⟨by omega, fun x hx => by have := hb.1 x hx; omega⟩, hs⟩

theorem sortStep_perm (l : List Seg) : (sortStep l).Perm l := by
  unfold sortStep; split
  · exact List.Perm.refl _
  · exact sortSegs_perm l

theorem sortStep_sorted (l : List Seg) : Sorted (sortStep l) := by
  unfold sortStep; split
  · rename_i h; exact isSorted_sorted l h
  · exact sortSegs_sorted l

theorem lookup_cons_of_has {s : Seg} {l : List Seg} {b : Int} (h : s.off ≤ b ∧ b < s.off + s.len) :
    lookup (s :: l) b = some (s.buf + (b - s.off)) := by
  rw [lookup, if_pos (by simpa [Seg.has] using h)]

theorem lookup_cons_of_not_has {s : Seg} {l : List Seg} {b : Int} (h : ¬ (s.off ≤ b ∧ b < s.off + s.len)) :
    lookup (s :: l) b = lookup l b := by
  rw [lookup, if_neg (by simpa [Seg.has] using h)]

theorem lookup_cons_congr {x y : Seg} {l : List Seg} {b : Int}
    (hh : (x.off ≤ b ∧ b < x.off + x.len) ↔ (y.off ≤ b ∧ b < y.off + y.len))
    (hv : x.buf - x.off = y.buf - y.off) : lookup (x :: l) b = lookup (y :: l) b := by
  by_cases h : x.off ≤ b ∧ b < x.off + x.len
  · rw [lookup_cons_of_has h, lookup_cons_of_has (hh.mp h)]; congr 1; omega
  · rw [lookup_cons_of_not_has h, lookup_cons_of_not_has (mt hh.mpr h)]

theorem lookup_none_of_lt (l : List Seg) (b : Int) (h : ∀ s ∈ l, b < s.off) : lookup l b = none := by
  induction l with
  | nil => rfl
  | cons s rest ih =>
    have hs := h s List.mem_cons_self
    rw [lookup_cons_of_not_has (by omega)]
    exact ih (fun x hx => h x (List.mem_cons_of_mem _ hx))

/-- every emitted segment starts at or after `cur.off`, has positive length, and the output is
    sorted and pairwise non-overlapping -/
theorem mergeGo_out (rest : List Seg) : ∀ (cur : Seg), 0 < cur.len → Pos rest →
    (∀ t ∈ mergeGo cur rest, 0 < t.len ∧ cur.off ≤ t.off) ∧ Disj (mergeGo cur rest) := by
  induction rest with
  | nil =>
    intro cur hc _
    simp [mergeGo, Disj]; exact hc
  | cons s rest ih =>
    intro cur hc hp
    obtain ⟨hs, hp'⟩ := List.forall_mem_cons.mp hp
    -- `cur` is emitted and the loop goes on with a segment that starts at or behind its end
    have emit : ∀ x : Seg, 0 < x.len → cur.off + cur.len ≤ x.off →
        (∀ t ∈ cur :: mergeGo x rest, 0 < t.len ∧ cur.off ≤ t.off) ∧ Disj (cur :: mergeGo x rest) := by
      intro x hx hle
      have h2 := ih x hx hp'
      refine ⟨List.forall_mem_cons.mpr ⟨⟨hc, Int.le_refl _⟩, fun t ht => ?_⟩,
              List.pairwise_cons.mpr ⟨fun t ht => ?_, h2.2⟩⟩
      · have := h2.1 t ht; exact ⟨this.1, by omega⟩
      · have := h2.1 t ht; omega
    unfold mergeGo
    split
    · exact ih cur hc hp'
    · simp only
      split
      · split
        · exact ih { cur with len := cur.len + (s.len - (cur.off + cur.len - s.off)) } (by simp; omega) hp'
        · exact emit _ (by simp; omega) (by simp; omega)
      · exact emit s hs (by omega)

theorem mergeGo_lookup_below (rest : List Seg) (cur : Seg) (hc : 0 < cur.len) (hp : Pos rest)
    (b : Int) (hb : b < cur.off) : lookup (mergeGo cur rest) b = none :=
  lookup_none_of_lt _ b (fun t ht => by have := (mergeGo_out rest cur hc hp).1 t ht; omega)

/-- for every file byte at or after `cur.off` the merge output gives the answer of the first
    containing segment of `cur :: rest` -/
theorem mergeGo_lookup (rest : List Seg) : ∀ (cur : Seg), 0 < cur.len → Pos rest → Sorted rest →
    ∀ b, cur.off ≤ b → lookup (mergeGo cur rest) b = lookup (cur :: rest) b := by
  induction rest with
  | nil => intro cur _ _ _ b _; simp [mergeGo]
  | cons s rest ih =>
    intro cur hc hp hso b hb
    obtain ⟨hs, hp'⟩ := List.forall_mem_cons.mp hp
    have hso' := List.pairwise_cons.mp hso
    unfold mergeGo
    by_cases h1 : b < cur.off + cur.len
    · -- `b` lies in `cur`, and in whatever `cur` is extended to
      rw [lookup_cons_of_has ⟨hb, h1⟩]
      split
      · rw [ih cur hc hp' hso'.2 b hb, lookup_cons_of_has ⟨hb, h1⟩]
      · simp only
        split
        · split
          · rw [ih _ (by simp; omega) hp' hso'.2 b (by simpa using hb), lookup_cons_of_has (by simp; omega)]
          · exact lookup_cons_of_has ⟨hb, h1⟩
        · exact lookup_cons_of_has ⟨hb, h1⟩
    · -- `b` lies behind `cur`: the answer is that of `s :: rest`
      rw [lookup_cons_of_not_has (by omega)]
      split
      · -- `s` is covered by `cur`, so it does not contain `b` either
        rw [ih cur hc hp' hso'.2 b hb, lookup_cons_of_not_has (by omega), lookup_cons_of_not_has (by omega)]
      · simp only
        split
        · split
          · -- behind its old end the extended `cur` agrees with `s` (contiguous buffers)
            rw [ih _ (by simp; omega) hp' hso'.2 b (by simpa using hb)]
            exact lookup_cons_congr (by simp; omega) (by simp; omega)
          · -- behind the end of `cur` the trimmed `s` agrees with `s`
            rw [lookup_cons_of_not_has (by omega), ih _ (by simp; omega) hp' hso'.2 b (by simp; omega)]
            exact lookup_cons_congr (by simp; omega) (by simp; omega)
        · rw [lookup_cons_of_not_has (by omega)]
          by_cases hbs : s.off ≤ b
          · exact ih s hs hp' hso'.2 b hbs
          · rw [mergeGo_lookup_below rest s hs hp' b (by omega), lookup_cons_of_not_has (by omega)]
            exact (lookup_none_of_lt rest b (fun x hx => by have := hso'.1 x hx; omega)).symm

theorem mergeSegs_lookup (l : List Seg) (hso : Sorted l) (hp : Pos l) (b : Int) :
    lookup (mergeSegs l) b = lookup l b := by
  cases l with
  | nil => rfl
  | cons s rest =>
    obtain ⟨hs, hp'⟩ := List.forall_mem_cons.mp hp
    have hso' := List.pairwise_cons.mp hso
    unfold mergeSegs
    by_cases hb : s.off ≤ b
    · exact mergeGo_lookup rest s hs hp' hso'.2 b hb
    · rw [mergeGo_lookup_below rest s hs hp' b (by omega)]
      exact (lookup_none_of_lt (s :: rest) b (fun x hx => by
        rcases List.mem_cons.mp hx with rfl | hx
        · omega
        · have := hso'.1 x hx; omega)).symm

theorem mergeSegs_out (l : List Seg) (hp : Pos l) : Pos (mergeSegs l) ∧ Disj (mergeSegs l) := by
  cases l with
  | nil => simp [mergeSegs, Pos, Disj]
  | cons s rest =>
    obtain ⟨hs, hp'⟩ := List.forall_mem_cons.mp hp
    have := mergeGo_out rest s hs hp'
    exact ⟨fun t ht => (this.1 t ht).1, this.2⟩

theorem span_add (a n m : Int) (hn : 0 ≤ n) (hm : 0 ≤ m) : span a (n + m) = span a n ++ span (a + n) m := by
  unfold span
  have h1 : (n + m).toNat = n.toNat + m.toNat := by omega
  rw [h1, List.range_add, List.map_append, List.map_map]
  congr 1
  apply List.map_congr_left
  intro k _
  simp only [Function.comp]
  have : ((n.toNat + k : Nat) : Int) = n + (k : Int) := by omega
  rw [this]; omega

theorem coalGo_bytes (key : Seg → Int) (rest : List Seg) : ∀ (d b : Int), 0 ≤ b → (∀ s ∈ rest, 0 ≤ s.len) →
    bytesOf (coalGo key d b rest) = span d b ++ rest.flatMap (fun s => span (key s) s.len) := by
  induction rest with
  | nil => intro d b _ _; simp [coalGo, bytesOf]
  | cons s rest ih =>
    intro d b hb hp
    obtain ⟨hs, hp'⟩ := List.forall_mem_cons.mp hp
    unfold coalGo
    split
    · rename_i h
      rw [ih d (b + s.len) (by omega) hp', span_add d b s.len hb hs, h]
      simp [List.flatMap_cons]
    · have := ih (key s) s.len hs hp'
      simp only [bytesOf, List.flatMap_cons] at this ⊢
      rw [this]

theorem coalesce_bytes (key : Seg → Int) (l : List Seg) (hp : ∀ s ∈ l, 0 ≤ s.len) :
    bytesOf (coalesce key l) = l.flatMap (fun s => span (key s) s.len) := by
  cases l with
  | nil => rfl
  | cons s rest =>
    unfold coalesce
    rw [coalGo_bytes key rest (key s) s.len (hp s List.mem_cons_self)
        (fun x hx => hp x (List.mem_cons_of_mem _ hx))]
    simp [List.flatMap_cons]

theorem zip_flatMap_span (l : List Seg) :
    (l.flatMap (fun s => span s.off s.len)).zip (l.flatMap (fun s => span s.buf s.len)) = pairs l := by
  induction l with
  | nil => rfl
  | cons s rest ih =>
    simp only [List.flatMap_cons, pairs]
    rw [List.zip_append (by simp [span])]
    congr 1
    simp only [span]
    exact List.zip_map'

/-- the two coalesced datatypes of type_create_off_len move exactly the (file byte, buffer byte)
    pairs of the segment list, in the same order -/
theorem transfer_eq_pairs (l : List Seg) (hp : ∀ s ∈ l, 0 ≤ s.len) : transfer l = pairs l := by
  unfold transfer fileType bufType
  rw [coalesce_bytes _ l hp, coalesce_bytes _ l hp]
  exact zip_flatMap_span l

theorem mem_pairs (l : List Seg) (b a : Int) :
    (b, a) ∈ pairs l ↔ ∃ s ∈ l, s.off ≤ b ∧ b < s.off + s.len ∧ a = s.buf + (b - s.off) := by
  unfold pairs
  simp only [List.mem_flatMap, List.mem_map, List.mem_range, Prod.mk.injEq]
  constructor
  · rintro ⟨s, hs, k, hk, h1, h2⟩
    exact ⟨s, hs, by omega, by omega, by omega⟩
  · rintro ⟨s, hs, h1, h2, h3⟩
    exact ⟨s, hs, (b - s.off).toNat, by omega, by omega, by omega⟩

/-- for a sorted non-overlapping list, membership in `pairs` is the `lookup` function -/
theorem mem_pairs_iff_lookup (l : List Seg) (hd : Disj l) (hp : Pos l) (b a : Int) :
    (b, a) ∈ pairs l ↔ lookup l b = some a := by
  induction l with
  | nil => simp [pairs, lookup]
  | cons s rest ih =>
    have hd' := List.pairwise_cons.mp hd
    have ih' := ih hd'.2 (List.forall_mem_cons.mp hp).2
    rw [mem_pairs] at ih' ⊢
    by_cases h1 : s.off ≤ b ∧ b < s.off + s.len
    · rw [lookup_cons_of_has h1, Option.some.injEq]
      constructor
      · rintro ⟨t, ht, h2, h3, h4⟩
        rcases List.mem_cons.mp ht with rfl | ht
        · omega
        · have := hd'.1 t ht; omega
      · intro h; exact ⟨s, List.mem_cons_self, h1.1, h1.2, by omega⟩
    · rw [lookup_cons_of_not_has h1, ← ih']
      constructor
      · rintro ⟨t, ht, h2, h3, h4⟩
        rcases List.mem_cons.mp ht with rfl | ht
        · exact absurd ⟨h2, h3⟩ h1
        · exact ⟨t, ht, h2, h3, h4⟩
      · rintro ⟨t, ht, h⟩; exact ⟨t, List.mem_cons_of_mem _ ht, h⟩

theorem pairs_cons (s : Seg) (l : List Seg) : pairs (s :: l) = pairs [s] ++ pairs l := by
  simp [pairs, List.flatMap_cons]

theorem pairs_extend (cur : Seg) (n : Int) (hc : 0 ≤ cur.len) (hn : 0 ≤ n) :
    pairs [{ cur with len := cur.len + n }] = pairs [cur] ++ pairs [⟨cur.off + cur.len, n, cur.buf + cur.len⟩] := by
  have single : ∀ s : Seg, pairs [s] = (span s.off s.len).zip (span s.buf s.len) := fun s => by
    simpa using (zip_flatMap_span [s]).symm
  simp only [single, span_add _ _ _ hc hn]
  exact List.zip_append (by simp [span])

/-- on a non-overlapping list the gap is never positive: `s` is emitted untrimmed or, at gap 0 with
    contiguous buffers, fused into `cur` -/
theorem mergeGo_disjoint (rest : List Seg) : ∀ (cur : Seg), 0 < cur.len → Pos rest → Disj (cur :: rest) →
    pairs (mergeGo cur rest) = pairs (cur :: rest) := by
  induction rest with
  | nil => intro cur _ _ _; simp [mergeGo]
  | cons s rest ih =>
    intro cur hc hp hd
    obtain ⟨hs, hp'⟩ := List.forall_mem_cons.mp hp
    have hd1 := List.pairwise_cons.mp hd
    have hd2 := List.pairwise_cons.mp hd1.2
    have hcs : cur.off + cur.len ≤ s.off := hd1.1 s List.mem_cons_self
    unfold mergeGo
    split
    · omega
    · simp only
      split
      · rename_i hgap
        have hg : cur.off + cur.len - s.off = 0 := by omega
        split
        · -- the piece added to `cur` is `s` itself
          rename_i hbuf
          rw [hg] at hbuf ⊢
          rw [ih _ (by simp; omega) hp' (by
            refine List.pairwise_cons.mpr ⟨?_, hd2.2⟩
            intro x hx; have := hd2.1 x hx; simp; omega)]
          have : (⟨cur.off + cur.len, s.len - 0, cur.buf + cur.len⟩ : Seg) = s := by
            cases s; simp at hbuf hg ⊢; omega
          rw [pairs_cons _ rest, pairs_extend cur (s.len - 0) (by omega) (by omega), this,
              pairs_cons cur (s :: rest), pairs_cons s rest, List.append_assoc]
        · rw [hg]
          have : (⟨s.off + 0, s.len - 0, s.buf + 0⟩ : Seg) = s := by cases s; simp
          rw [this, pairs_cons, ih s hs hp' hd1.2, ← pairs_cons]
      · rw [pairs_cons, ih s hs hp' hd1.2, ← pairs_cons]

theorem mergeSegs_disjoint (l : List Seg) (hp : Pos l) (hd : Disj l) : pairs (mergeSegs l) = pairs l := by
  cases l with
  | nil => rfl
  | cons s rest =>
    exact mergeGo_disjoint rest s (hp s List.mem_cons_self)
      (fun x hx => hp x (List.mem_cons_of_mem _ hx)) hd

theorem pairs_perm (l₁ l₂ : List Seg) (h : l₁.Perm l₂) : (pairs l₁).Perm (pairs l₂) := by
  unfold pairs; exact List.Perm.flatMap_right _ h

theorem disj_of_sorted_symDisj (l : List Seg) (hs : Sorted l) (hp : Pos l) (hd : SymDisj l) : Disj l := by
  induction l with
  | nil => simp [Disj]
  | cons s rest ih =>
    have hs' := List.pairwise_cons.mp hs
    have hd' := List.pairwise_cons.mp hd
    have hp' := (List.forall_mem_cons.mp hp).2
    refine List.pairwise_cons.mpr ⟨fun x hx => ?_, ih hs'.2 hp' hd'.2⟩
    have h1 := hs'.1 x hx
    have h2 := hd'.1 x hx
    have h3 := hp' x hx
    omega

theorem sorted_perm_disj {l l' : List Seg} (hperm : l'.Perm l) (hs : Sorted l') (hp : Pos l) (hd : SymDisj l) :
    Pos l' ∧ Disj l' := by
  have hp' : Pos l' := fun s h => hp s (hperm.mem_iff.mp h)
  have hd' : SymDisj l' := (List.Perm.pairwise_iff (fun {a b} h => h.symm) hperm).mpr hd
  exact ⟨hp', disj_of_sorted_symDisj l' hs hp' hd'⟩

end PnVerif.Merge
