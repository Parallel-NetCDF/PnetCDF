import PnVerif.Lemmas.Decode
/-
  The independent specification decoder run on the output of the library's writer
  (`encodeRaw`, any field values that fit the field widths), parser by parser.
-/
namespace PnVerif.Header
open PnVerif.Spec

theorem foldl_be (bs : Bytes) (acc : Nat) :
    bs.foldl (fun acc b => acc * 256 + b.toNat) acc = acc * 256 ^ bs.length + beNat bs := by
  induction bs generalizing acc with
  | nil => simp [beNat]
  | cons b t ih =>
    rw [beNat, List.foldl_cons, List.foldl_cons, ih, ih (0 * 256 + _), List.length_cons, Nat.pow_succ']
    simp only [Nat.add_mul, Nat.mul_assoc, Nat.add_assoc, Nat.zero_mul, Nat.zero_add]

theorem beNat_append (a b : Bytes) : beNat (a ++ b) = beNat a * 256 ^ b.length + beNat b := by
  rw [beNat, List.foldl_append, foldl_be]; rfl

theorem beNat_be32_mod (n : Nat) : beNat (be32 n) = n % 4294967296 := by
  simp only [beNat, be32, List.foldl_cons, List.foldl_nil, UInt8.toNat_ofNat']
  omega

theorem beNat_be32 (n : Nat) (h : n < 4294967296) : beNat (be32 n) = n := by
  rw [beNat_be32_mod, Nat.mod_eq_of_lt h]

theorem be64_eq (n : Nat) : be64 n = be32 (n / 4294967296) ++ be32 n := by
  simp [be64, be32, Nat.div_div_eq_div_mul]

theorem beNat_be64 (n : Nat) (h : n < 18446744073709551616) : beNat (be64 n) = n := by
  rw [be64_eq, beNat_append, beNat_be32_mod, beNat_be32_mod, be32_length]
  omega

theorem takeN_append {n : Nat} (x r : Bytes) (h : x.length = n) : Spec.takeN n (x ++ r) = some (x, r) := by
  subst h; simp [Spec.takeN]

theorem word32_be32 (n : Nat) (r : Bytes) (h : n < 4294967296) : Spec.word32 (be32 n ++ r) = some (n, r) := by
  unfold Spec.word32
  rw [takeN_append (n := 4) (be32 n) r rfl]
  simp only [beVal_eq, beNat_be32 n h]

theorem word64_be64 (n : Nat) (r : Bytes) (h : n < 18446744073709551616) : Spec.word64 (be64 n ++ r) = some (n, r) := by
  unfold Spec.word64
  rw [takeN_append (n := 8) (be64 n) r rfl]
  simp only [beVal_eq, beNat_be64 n h]

/-- the bound of a NON_NEG field -/
def nnLim (f : Fmt) : Nat := match f with | .cdf5 => 2 ^ 63 | _ => 2 ^ 31
/-- the bound of an OFFSET field -/
def offLim (f : Fmt) : Nat := match f with | .cdf1 => 2 ^ 31 | _ => 2 ^ 63
/-- the bound of the raw vsize word -/
def rawLim (f : Fmt) : Nat := match f with | .cdf5 => 2 ^ 64 | _ => 2 ^ 32

theorem putNonNeg_fmt (f : Fmt) (n : Nat) :
    putNonNeg f.version n = match f with | .cdf5 => be64 n | _ => be32 n := by cases f <;> rfl

theorem putBegin_fmt (f : Fmt) (n : Nat) :
    putBegin f.version n = match f with | .cdf1 => be32 n | _ => be64 n := by cases f <;> rfl

theorem nonNeg_put {f : Fmt} {n : Nat} {r : Bytes} (h : n < nnLim f) :
    Spec.nonNeg f (putNonNeg f.version n ++ r) = some (n, r) := by
  cases f <;> simp only [nnLim] at h <;> simp only [Spec.nonNeg, putNonNeg_fmt]
  · rw [word32_be32 n r (by omega)]; exact if_pos h
  · rw [word32_be32 n r (by omega)]; exact if_pos h
  · rw [word64_be64 n r (by omega)]; exact if_pos h

theorem rawSize_put {f : Fmt} {n : Nat} {r : Bytes} (h : n < rawLim f) :
    Spec.rawSize f (putNonNeg f.version n ++ r) = some (n, r) := by
  cases f <;> simp only [rawLim] at h <;> simp only [Spec.rawSize, putNonNeg_fmt]
  · exact word32_be32 n r h
  · exact word32_be32 n r h
  · exact word64_be64 n r h

theorem offset_put {f : Fmt} {n : Nat} {r : Bytes} (h : n < offLim f) :
    Spec.offset f (putBegin f.version n ++ r) = some (n, r) := by
  cases f <;> simp only [offLim] at h <;> simp only [Spec.offset, putBegin_fmt]
  · rw [word32_be32 n r (by omega)]; exact if_pos h
  · rw [word64_be64 n r (by omega)]; exact if_pos h
  · rw [word64_be64 n r (by omega)]; exact if_pos h

theorem padded_append (x r : Bytes) :
    Spec.padded x.length (x ++ zeros (Spec.padLen x.length) ++ r) = some (x, r) := by
  unfold Spec.padded
  simp only [List.append_assoc, takeN_append x _ rfl, takeN_append (zeros _) r (zeros_length _)]

theorem name_put {f : Fmt} {nm r : Bytes} (h0 : NoNul nm) (hl : nm.length < nnLim f) :
    Spec.name f (putName f.version nm ++ r) = some (nm, r) := by
  unfold Spec.name putName
  simp only [cstr_eq_self h0, List.append_assoc, nonNeg_put hl, putName_pad]
  rw [← List.append_assoc]
  exact padded_append nm r

theorem many_put {α : Type} {sp : Spec.Parser α} {enc : α → Bytes} {WF : α → Prop}
    (h : ∀ {x r}, WF x → sp (enc x ++ r) = some (x, r)) {xs : List α} {r : Bytes} (hw : ∀ x ∈ xs, WF x) :
    Spec.many sp xs.length (xs.flatMap enc ++ r) = some (xs, r) := by
  induction xs with
  | nil => rfl
  | cons x t ih =>
    simp only [List.length_cons, Spec.many, List.flatMap_cons, List.append_assoc, h (hw x (by simp)),
      ih (fun y hy => hw y (by simp [hy]))]

/-- a list written by hdr_put_NC_*array (ABSENT when empty) is parsed back by `listOf` -/
theorem listOf_put {α : Type} {f : Fmt} {tag : Nat} (htag : 0 < tag ∧ tag < 4294967296)
    {sp : Spec.Parser α} {enc : α → Bytes} {WF : α → Prop}
    (h : ∀ {x r}, WF x → sp (enc x ++ r) = some (x, r)) {xs : List α} {r : Bytes}
    (hn : xs.length < nnLim f) (hw : ∀ x ∈ xs, WF x) :
    Spec.listOf f tag sp
      ((if xs.length = 0 then be32 0 ++ putNonNeg f.version 0
        else be32 tag ++ putNonNeg f.version xs.length ++ xs.flatMap enc) ++ r) = some (xs, r) := by
  unfold Spec.listOf
  by_cases h0 : xs.length = 0
  · cases List.eq_nil_of_length_eq_zero h0
    simp only [List.length_nil, if_true, List.append_assoc, word32_be32 0 _ (by omega), nonNeg_put (n := 0) hn]
  · have : ¬ tag = 0 := by omega
    simp only [h0, if_false, List.append_assoc, word32_be32 tag _ htag.2, nonNeg_put hn, this, if_true,
      many_put h hw]

/-! ### headers the writer can express: every field fits its width, names have no NUL -/

structure DimWF (f : Fmt) (d : Dim) : Prop where
  nul     : NoNul d.name
  nameLen : d.name.length < nnLim f
  size    : d.size < nnLim f

structure AttWF (f : Fmt) (a : Att) : Prop where
  nul     : NoNul a.name
  nameLen : a.name.length < nnLim f
  typeOk  : a.xtype.okFor f = true
  nelems  : a.nelems < nnLim f
  value   : a.xvalue.length = a.nelems * a.xtype.size

structure VarWF (f : Fmt) (v : Var) : Prop where
  nul     : NoNul v.name
  nameLen : v.name.length < nnLim f
  ndims   : v.dimids.length < nnLim f
  dimids  : ∀ id ∈ v.dimids, id < nnLim f
  natts   : v.atts.length < nnLim f
  atts    : ∀ a ∈ v.atts, AttWF f a
  typeOk  : v.xtype.okFor f = true
  vsize   : v.vsize < rawLim f
  begin   : v.begin < offLim f

structure Encodable (d : Schema) : Prop where
  numrecs : d.numrecs < nnLim d.fmt
  ndims   : d.dims.length < nnLim d.fmt
  dims    : ∀ x ∈ d.dims, DimWF d.fmt x
  ngatts  : d.gatts.length < nnLim d.fmt
  gatts   : ∀ a ∈ d.gatts, AttWF d.fmt a
  nvars   : d.vars.length < nnLim d.fmt
  vars    : ∀ v ∈ d.vars, VarWF d.fmt v

theorem dim_put {f : Fmt} {d : Dim} {r : Bytes} (h : DimWF f d) :
    Spec.dim f (putDim f.version d ++ r) = some (d, r) := by
  unfold Spec.dim putDim
  simp only [List.append_assoc, name_put h.nul h.nameLen, nonNeg_put h.size]

theorem dims_put {f : Fmt} {ds : List Dim} {r : Bytes} (hn : ds.length < nnLim f) (hw : ∀ d ∈ ds, DimWF f d) :
    Spec.listOf f 10 (Spec.dim f) (putDimArray f.version ds ++ r) = some (ds, r) :=
  listOf_put (by decide) dim_put hn hw

theorem ofCode_code (t : NcType) : NcType.ofCode t.code = some t := by cases t <;> rfl

theorem ncType_put {f : Fmt} {t : NcType} {r : Bytes} (h : t.okFor f = true) :
    Spec.ncType f (be32 t.code ++ r) = some (t, r) := by
  unfold Spec.ncType
  simp only [word32_be32 t.code r (by cases t <;> simp [NcType.code]), ofCode_code, h, if_true]

theorem putAttrV_eq (a : Att) (hv : a.xvalue.length = a.nelems * a.xtype.size) :
    (if a.nelems > 0 then putAttrV a else []) = a.xvalue ++ zeros (Spec.padLen a.xvalue.length) := by
  split
  · rename_i hp
    have := attr_pad_eq a.xtype a.nelems
    simp only [putAttrV, attrXsz, hp, if_true] at this ⊢
    rw [ztake_of_le (by omega), List.take_of_length_le (by omega), this, hv]
  · have h0 : a.nelems = 0 := by omega
    have : a.xvalue = [] := List.eq_nil_of_length_eq_zero (by rw [hv, h0, Nat.zero_mul])
    rw [this]; simp [Spec.padLen, zeros]

theorem att_put {f : Fmt} {a : Att} {r : Bytes} (h : AttWF f a) :
    Spec.att f (putAttr f.version a ++ r) = some (a, r) := by
  unfold Spec.att putAttr
  simp only [List.append_assoc, name_put h.nul h.nameLen, ncType_put h.typeOk, nonNeg_put h.nelems]
  rw [putAttrV_eq a h.value, ← h.value, padded_append]

theorem attrs_put {f : Fmt} {as : List Att} {r : Bytes} (hn : as.length < nnLim f) (hw : ∀ a ∈ as, AttWF f a) :
    Spec.listOf f 12 (Spec.att f) (putAttrArray f.version as ++ r) = some (as, r) :=
  listOf_put (by decide) att_put hn hw

theorem var_put {f : Fmt} {v : Var} {r : Bytes} (h : VarWF f v) :
    Spec.var f (putVar f.version v ++ r) = some (v, r) := by
  unfold Spec.var putVar
  simp only [List.append_assoc, name_put h.nul h.nameLen, nonNeg_put h.ndims, many_put nonNeg_put h.dimids,
    attrs_put h.natts h.atts, ncType_put h.typeOk, rawSize_put h.vsize, offset_put h.begin]

theorem vars_put {f : Fmt} {vs : List Var} {r : Bytes} (hn : vs.length < nnLim f) (hw : ∀ v ∈ vs, VarWF f v) :
    Spec.listOf f 11 (Spec.var f) (putVarArray f.version vs ++ r) = some (vs, r) :=
  listOf_put (by decide) var_put hn hw

theorem magic_put (f : Fmt) (r : Bytes) : Spec.magic (magicBytes f ++ r) = some (f, r) := by
  cases f <;> simp [Spec.magic, magicBytes, Fmt.version]

theorem header_put (d : Schema) (rest : Bytes) (h : Encodable d) :
    Spec.header (encodeRaw d ++ rest) = some (d, rest) := by
  unfold Spec.header encodeRaw
  simp only [List.append_assoc, magic_put, nonNeg_put h.numrecs, dims_put h.ndims h.dims,
    attrs_put h.ngatts h.gatts, vars_put h.nvars h.vars]

end PnVerif.Header
