import PnVerif.Model.Tools
/-
  Lemmas about the cdfdiff / ncmpidiff model (Model/Tools.lean, `toolDiff`).
-/
namespace PnVerif.Tools
open PnVerif.Spec PnVerif.Header

theorem sumNat_eq_zero (l : List Nat) : sumNat l = 0 ↔ ∀ x ∈ l, x = 0 := List.sum_eq_zero_iff_forall_eq_nat

theorem imap_eq_map {α β : Type} (f : Nat → α → β) (g : α → β) (l : List α) (h : ∀ i x, x ∈ l → f i x = g x) :
    ∀ k, imap f l k = l.map g := by
  induction l with
  | nil => intro k; rfl
  | cons a t ih =>
    intro k
    simp only [imap, List.map_cons]
    rw [h k a (by simp), ih (fun i x hx => h i x (by simp [hx]))]

theorem b2n_eq_zero (b : Bool) : b2n b = 0 ↔ b = false := by
  cases b <;> simp [b2n]

theorem b2n_ne_eq_zero {α : Type} [DecidableEq α] (x y : α) : b2n (decide (x ≠ y)) = 0 ↔ x = y := by
  rw [b2n_eq_zero, decide_eq_false_iff_not, Decidable.not_not]

@[simp] theorem optCase_none {α β : Type} (n : β) (f : α → β) : optCase none n f = n := rfl
@[simp] theorem optCase_some {α β : Type} (y : α) (n : β) (f : α → β) : optCase (some y) n f = f y := rfl

theorem optCase_eq_zero {α : Type} (o : Option α) (f : α → Nat) : optCase o 1 f = 0 ↔ ∃ y, o = some y ∧ f y = 0 := by
  cases o <;> simp

theorem pos_or_nil {α β : Type} {A : List α} {B : List β} (h : A.length = B.length) :
    (A.length > 0 ∧ B.length > 0) ∨ (A = [] ∧ B = []) := by
  cases A <;> cases B <;> simp at h ⊢

/-! ### name lookup: with unique names the wrap-around search of cdfdiff finds what a plain search finds -/

def UniqueNames {α : Type} (nameOf : α → Bytes) (xs : List α) : Prop := (xs.map nameOf).Nodup

theorem unique_of_names {α : Type} {nameOf : α → Bytes} {xs : List α} (h : UniqueNames nameOf xs) {x y : α}
    (hx : x ∈ xs) (hy : y ∈ xs) (hn : nameOf x = nameOf y) : x = y := by
  induction xs with
  | nil => cases hx
  | cons a t ih =>
    unfold UniqueNames at h ih
    simp only [List.map_cons, List.nodup_cons, List.mem_map, not_exists, not_and] at h
    rcases List.mem_cons.mp hx with rfl | hx' <;> rcases List.mem_cons.mp hy with rfl | hy'
    · rfl
    · exact absurd hn.symm (h.1 y hy')
    · exact absurd hn (h.1 x hx')
    · exact ih h.2 hx' hy'

def findBy {α : Type} (nameOf : α → Bytes) (xs : List α) (nm : Bytes) : Option α := xs.find? (fun x => nameOf x == nm)

theorem findAtt_eq_findBy : findAtt = findBy (fun x : Att => x.name) := rfl
theorem findDim_eq_findBy : findDim = findBy (fun x : Dim => x.name) := rfl
theorem findVar_eq_findBy : findVar = findBy (fun x : LVar => x.name) := rfl

theorem findBy_some {α : Type} {nameOf : α → Bytes} {xs : List α} {nm : Bytes} {x : α} (h : findBy nameOf xs nm = some x) :
    x ∈ xs ∧ nameOf x = nm :=
  ⟨List.mem_of_find?_eq_some h, by simpa using List.find?_some h⟩

theorem findVar_some {vs : List LVar} {nm : Bytes} {v : LVar} (h : findVar vs nm = some v) : v ∈ vs ∧ v.name = nm :=
  findBy_some (findVar_eq_findBy ▸ h)

theorem findBy_eq_some {α : Type} {nameOf : α → Bytes} {xs ys : List α} (hu : UniqueNames nameOf xs)
    (hm : ∀ x, x ∈ ys ↔ x ∈ xs) {nm : Bytes} {x : α} : findBy nameOf ys nm = some x ↔ x ∈ xs ∧ nameOf x = nm := by
  constructor
  · intro h; exact ⟨(hm x).mp (findBy_some h).1, (findBy_some h).2⟩
  · rintro ⟨hx, rfl⟩
    cases h : findBy nameOf ys (nameOf x) with
    | none => exact absurd (beq_self_eq_true _) (List.find?_eq_none.mp h x ((hm x).mpr hx))
    | some y => rw [unique_of_names hu ((hm y).mp (findBy_some h).1) hx (findBy_some h).2]

theorem findBy_self {α : Type} {nameOf : α → Bytes} {xs : List α} (hu : UniqueNames nameOf xs) {x : α} (hx : x ∈ xs) :
    findBy nameOf xs (nameOf x) = some x :=
  (findBy_eq_some hu (fun _ => Iff.rfl)).mpr ⟨hx, rfl⟩

theorem lookup_eq_find {α : Type} (cfg : DiffCfg) (nameOf : α → Bytes) (xs : List α) (i : Nat) (nm : Bytes)
    (hu : UniqueNames nameOf xs) : lookup cfg nameOf xs i nm = findBy nameOf xs nm := by
  unfold lookup
  split
  · refine Option.ext (fun x => ?_)
    rw [findBy_eq_some hu (fun _ => Iff.rfl)]
    exact findBy_eq_some hu (fun x => by rw [List.perm_append_comm.mem_iff, List.take_append_drop])
  · rfl

/-- every entry of `A` against its namesake in `B` (`d`; 1 when there is none), then every entry of `B` without a
    namesake in `A`: the common form of `attsDiff`, `dimsDiff` and both components of `varsDiff` -/
def keyedDiff {α : Type} (cfg : DiffCfg) (nameOf : α → Bytes) (d : α → α → Nat) (A B : List α) : Nat :=
  sumNat (imap (fun i x => optCase (lookup cfg nameOf B i (nameOf x)) 1 (d x)) A 0) +
  sumNat (imap (fun i y => optCase (lookup cfg nameOf A i (nameOf y)) 1 (fun _ => 0)) B 0)

theorem attsDiff_eq_keyed (cfg : DiffCfg) (A B : List Att) :
    attsDiff cfg A B = keyedDiff cfg (fun x : Att => x.name) (attDiff cfg) A B := rfl

theorem dimsDiff_eq_keyed (cfg : DiffCfg) (a b : LFile) :
    dimsDiff cfg a b = if a.dims.length > 0 ∧ b.dims.length > 0 then
      keyedDiff cfg (fun x : Dim => x.name)
        (fun d e => b2n (dimLen cfg a.numrecs d.size ≠ dimLen cfg b.numrecs e.size)) a.dims b.dims else 0 := rfl

theorem varsDiff_eq_keyed (cfg : DiffCfg) (a b : LFile) :
    varsDiff cfg a b = if a.vars.length > 0 ∧ b.vars.length > 0 then
      (keyedDiff cfg (fun x : LVar => x.name) (varMetaDiff cfg a.numrecs b.numrecs) a.vars b.vars,
       keyedDiff cfg (fun x : LVar => x.name) (fun _ _ => 0) a.vars b.vars) else (0, 0) := rfl

/-- with unique names neither the index nor the tool's way of searching matters -/
theorem keyedDiff_eq_zero {α : Type} (cfg : DiffCfg) (nameOf : α → Bytes) (d : α → α → Nat) (A B : List α)
    (hA : UniqueNames nameOf A) (hB : UniqueNames nameOf B) :
    keyedDiff cfg nameOf d A B = 0 ↔
      (∀ x ∈ A, ∃ y, findBy nameOf B (nameOf x) = some y ∧ d x y = 0) ∧
      ∀ y ∈ B, ∃ x, findBy nameOf A (nameOf y) = some x := by
  unfold keyedDiff
  rw [imap_eq_map _ (fun x => optCase (findBy nameOf B (nameOf x)) 1 (d x)) A
        (fun i x _ => by rw [lookup_eq_find cfg _ B i _ hB]) 0,
      imap_eq_map _ (fun y => optCase (findBy nameOf A (nameOf y)) 1 (fun _ => 0)) B
        (fun i y _ => by rw [lookup_eq_find cfg _ A i _ hA]) 0]
  simp only [Nat.add_eq_zero_iff, sumNat_eq_zero, List.forall_mem_map, optCase_eq_zero, and_true]

theorem keyed_rel_of_zero {α : Type} (cfg : DiffCfg) {nameOf : α → Bytes} {A B : List α} {d : α → α → Nat} (R : α → α → Prop)
    (hA : UniqueNames nameOf A) (hB : UniqueNames nameOf B)
    (hd : ∀ x ∈ A, ∀ y ∈ B, nameOf x = nameOf y → d x y = 0 → R x y) (h : keyedDiff cfg nameOf d A B = 0) :
    (∀ nm, (findBy nameOf A nm).isSome = (findBy nameOf B nm).isSome) ∧
       ∀ nm x y, findBy nameOf A nm = some x → findBy nameOf B nm = some y → R x y := by
  obtain ⟨k1, k2⟩ := (keyedDiff_eq_zero cfg nameOf d A B hA hB).mp h
  refine ⟨fun nm => Bool.eq_iff_iff.mpr ?_, fun nm x y ha hb => ?_⟩
  · simp only [Option.isSome_iff_exists]
    exact ⟨fun ⟨x, ha⟩ => by obtain ⟨hx, rfl⟩ := findBy_some ha; exact (k1 x hx).imp fun _ h => h.1,
      fun ⟨y, hb⟩ => by obtain ⟨hy, rfl⟩ := findBy_some hb; exact k2 y hy⟩
  · obtain ⟨hx, rfl⟩ := findBy_some ha
    obtain ⟨y', hy', h0⟩ := k1 x hx
    rw [hb] at hy'
    cases hy'
    exact hd x hx y (findBy_some hb).1 (findBy_some hb).2.symm h0

/-- the other direction, with its own comparison hypothesis: ncmpidiff's comparison of NC_BYTE values answers
    "same" for anything -/
theorem keyed_zero_of_rel {α : Type} (cfg : DiffCfg) {nameOf : α → Bytes} {A B : List α} {d : α → α → Nat} (R : α → α → Prop)
    (hA : UniqueNames nameOf A) (hB : UniqueNames nameOf B)
    (hd : ∀ x ∈ A, ∀ y ∈ B, nameOf x = nameOf y → R x y → d x y = 0)
    (hs : ∀ nm, (findBy nameOf A nm).isSome = (findBy nameOf B nm).isSome)
    (hr : ∀ nm x y, findBy nameOf A nm = some x → findBy nameOf B nm = some y → R x y) :
    keyedDiff cfg nameOf d A B = 0 := by
  refine (keyedDiff_eq_zero cfg nameOf d A B hA hB).mpr ⟨fun x hx => ?_, fun y hy => ?_⟩
  · have ha := findBy_self hA hx
    obtain ⟨y, hb⟩ := Option.isSome_iff_exists.mp (by rw [← hs, ha]; rfl)
    exact ⟨y, hb, hd x hx y (findBy_some hb).1 (findBy_some hb).2.symm (hr _ x y ha hb)⟩
  · exact Option.isSome_iff_exists.mp (by rw [hs, findBy_self hB hy]; rfl)

theorem keyed_eq_iff {α : Type} (nameOf : α → Bytes) (A B : List α) :
    ((∀ nm, (findBy nameOf A nm).isSome = (findBy nameOf B nm).isSome) ∧
       ∀ nm x y, findBy nameOf A nm = some x → findBy nameOf B nm = some y → x = y)
    ↔ ∀ nm, findBy nameOf A nm = findBy nameOf B nm := by
  constructor
  · rintro ⟨hs, hr⟩ nm
    have := hs nm
    cases ha : findBy nameOf A nm <;> cases hb : findBy nameOf B nm <;> rw [ha, hb] at this
    · cases this
    · cases this
    · rw [hr nm _ _ ha hb]
  · intro h
    exact ⟨fun nm => by rw [h nm], fun nm x y ha hb => by rw [h nm, hb] at ha; exact (Option.some.inj ha).symm⟩

/-- attribute lists as every reader produces them: unique names, `nelems` values stored -/
def AttsWF (A : List Att) : Prop :=
  UniqueNames (fun x : Att => x.name) A ∧ ∀ x ∈ A, x.xvalue.length = x.nelems * x.xtype.size

/-- ncmpidiff never looks at NC_BYTE values -/
def NoByteAtts (cfg : DiffCfg) (A : List Att) : Prop := cfg.skipByte = true → ∀ x ∈ A, x.xtype ≠ .byte

theorem attDiff_self (cfg : DiffCfg) (x : Att) : attDiff cfg x x = 0 := by
  unfold attDiff
  simp [b2n]

theorem attDiff_zero (cfg : DiffCfg) {x y : Att} (hn : x.name = y.name)
    (hx : x.xvalue.length = x.nelems * x.xtype.size) (hy : y.xvalue.length = y.nelems * y.xtype.size)
    (hb : cfg.skipByte = true → x.xtype ≠ .byte) (h : attDiff cfg x y = 0) : x = y := by
  unfold attDiff at h
  split at h
  · cases h
  split at h
  · cases h
  rename_i c1 c2
  have e1 := Decidable.not_not.mp c1
  have e2 := Decidable.not_not.mp c2
  rw [if_neg (fun c => hb c.1 c.2), b2n_ne_eq_zero, List.take_of_length_le (Nat.le_of_eq hx),
    List.take_of_length_le (by rw [hy, e1, e2]; exact Nat.le_refl _)] at h
  cases x; cases y
  simp only [] at hn e1 e2 h
  subst hn e1 e2 h
  rfl

theorem atts_zero_of_eq (cfg : DiffCfg) {A B : List Att} (hA : UniqueNames (fun x : Att => x.name) A)
    (hB : UniqueNames (fun x : Att => x.name) B) (h : ∀ nm, findAtt A nm = findAtt B nm) : attsDiff cfg A B = 0 := by
  rw [findAtt_eq_findBy] at h
  rw [attsDiff_eq_keyed]
  have h' := (keyed_eq_iff _ A B).mpr h
  exact keyed_zero_of_rel cfg Eq hA hB (fun x _ y _ _ hxy => by subst hxy; exact attDiff_self cfg x) h'.1 h'.2

theorem atts_eq_of_zero (cfg : DiffCfg) {A B : List Att} (hA : AttsWF A) (hB : AttsWF B) (hb : NoByteAtts cfg A)
    (h : attsDiff cfg A B = 0) : ∀ nm, findAtt A nm = findAtt B nm := by
  rw [attsDiff_eq_keyed] at h
  rw [findAtt_eq_findBy]
  exact (keyed_eq_iff _ A B).mp (keyed_rel_of_zero cfg Eq hA.1 hB.1
    (fun x hx y hy hn => attDiff_zero cfg hn (hA.2 x hx) (hB.2 y hy) (fun hs => hb hs x hx)) h)

theorem dim_ext {x y : Dim} (h1 : x.name = y.name) (h2 : x.size = y.size) : x = y := by
  cases x; cases y; simp only [] at h1 h2; subst h1 h2; rfl

theorem dims_zero_of_eq (cfg : DiffCfg) {a b : LFile} (hA : UniqueNames (fun x : Dim => x.name) a.dims)
    (hB : UniqueNames (fun x : Dim => x.name) b.dims) (hn : a.numrecs = b.numrecs)
    (h : ∀ nm, findDim a.dims nm = findDim b.dims nm) : dimsDiff cfg a b = 0 := by
  rw [findDim_eq_findBy] at h
  rw [dimsDiff_eq_keyed]
  split
  · have h' := (keyed_eq_iff _ a.dims b.dims).mpr h
    exact keyed_zero_of_rel cfg Eq hA hB
      (fun x _ y _ _ hxy => by subst hxy; rw [hn]; exact (b2n_ne_eq_zero _ _).mpr rfl) h'.1 h'.2
  · rfl

theorem dims_eq_of_zero (cfg : DiffCfg) {a b : LFile} (hA : UniqueNames (fun x : Dim => x.name) a.dims)
    (hB : UniqueNames (fun x : Dim => x.name) b.dims) (hlen : a.dims.length = b.dims.length)
    (hag : ∀ x ∈ a.dims, ∀ y ∈ b.dims, x.name = y.name →
      dimLen cfg a.numrecs x.size = dimLen cfg b.numrecs y.size → x.size = y.size)
    (h : dimsDiff cfg a b = 0) : ∀ nm, findDim a.dims nm = findDim b.dims nm := by
  rw [findDim_eq_findBy]
  rcases pos_or_nil hlen with hpos | ⟨ha, hb⟩
  · rw [dimsDiff_eq_keyed, if_pos hpos] at h
    exact (keyed_eq_iff _ a.dims b.dims).mp (keyed_rel_of_zero cfg Eq hA hB
      (fun x hx y hy hn hd => dim_ext hn (hag x hx y hy hn ((b2n_ne_eq_zero _ _).mp hd))) h)
  · intro nm; rw [ha, hb]

/-- the header part of `LVarEq` -/
structure LVarMetaEq (v w : LVar) : Prop where
  xtype : v.xtype = w.xtype
  dims  : v.dims = w.dims
  natts : v.atts.length = w.atts.length
  atts  : ∀ nm, findAtt v.atts nm = findAtt w.atts nm

theorem varDimsDiff_self (cfg : DiffCfg) (n : Nat) : ∀ ds : List LDim, varDimsDiff cfg n n ds ds = 0 := by
  intro ds
  induction ds with
  | nil => rfl
  | cons d t ih => simp [varDimsDiff, b2n, ih]

theorem ldim_ext {x y : LDim} (h1 : x.name = y.name) (h2 : x.size = y.size) : x = y := by
  cases x; cases y; simp only [] at h1 h2; subst h1 h2; rfl

theorem varDims_eq_of_zero (cfg : DiffCfg) (na nb : Nat) : ∀ (ds es : List LDim), ds.length = es.length →
    (∀ p ∈ ds.zip es, p.1.name = p.2.name → dimLen cfg na p.1.size = dimLen cfg nb p.2.size → p.1.size = p.2.size) →
    varDimsDiff cfg na nb ds es = 0 → ds = es := by
  intro ds
  induction ds with
  | nil => intro es hl _ _; exact (List.eq_nil_of_length_eq_zero hl.symm).symm
  | cons d t ih =>
    intro es hl hag h
    cases es with
    | nil => cases hl
    | cons e u =>
      simp only [varDimsDiff, Nat.add_eq_zero_iff, b2n_ne_eq_zero] at h
      obtain ⟨⟨hn, hs⟩, h3⟩ := h
      rw [ldim_ext hn (hag (d, e) (by simp) hn hs),
        ih u (Nat.succ.inj hl) (fun p hp => hag p (by simp [hp])) h3]

theorem varMeta_zero_of (cfg : DiffCfg) (n : Nat) {v w : LVar} (hv : UniqueNames (fun x : Att => x.name) v.atts)
    (hw : UniqueNames (fun x : Att => x.name) w.atts) (h : LVarMetaEq v w) : varMetaDiff cfg n n v w = 0 := by
  unfold varMetaDiff
  rw [(b2n_ne_eq_zero _ _).mpr h.xtype, (b2n_ne_eq_zero _ _).mpr h.natts, atts_zero_of_eq cfg hv hw h.atts,
    h.dims, if_neg (not_not_intro rfl), varDimsDiff_self]

theorem varMeta_of_zero (cfg : DiffCfg) (na nb : Nat) {v w : LVar} (hv : AttsWF v.atts) (hw : AttsWF w.atts)
    (hb : NoByteAtts cfg v.atts)
    (hag : ∀ p ∈ v.dims.zip w.dims, p.1.name = p.2.name → dimLen cfg na p.1.size = dimLen cfg nb p.2.size → p.1.size = p.2.size)
    (h : varMetaDiff cfg na nb v w = 0) : LVarMetaEq v w := by
  simp only [varMetaDiff, Nat.add_eq_zero_iff, b2n_ne_eq_zero] at h
  obtain ⟨⟨⟨h1, h2⟩, h3⟩, h4⟩ := h
  split at h2
  · cases h2
  · rename_i hl
    exact ⟨h1, varDims_eq_of_zero cfg na nb v.dims w.dims (Decidable.not_not.mp hl) hag h2, h3,
      atts_eq_of_zero cfg hv hw hb h4⟩

/-- files as every reader produces them: unique names in every name space, attribute values of the stated length -/
structure LWF (a : LFile) : Prop where
  dimNames : UniqueNames (fun x : Dim => x.name) a.dims
  gatts    : AttsWF a.gatts
  varNames : UniqueNames (fun x : LVar => x.name) a.vars
  vatts    : ∀ v ∈ a.vars, AttsWF v.atts

/-- nothing of type NC_BYTE in the first file (what ncmpidiff never compares) -/
structure NoByte (cfg : DiffCfg) (a : LFile) : Prop where
  gatts : NoByteAtts cfg a.gatts
  vars  : ∀ v ∈ a.vars, (cfg.skipByte = true → v.xtype ≠ .byte) ∧ NoByteAtts cfg v.atts

theorem noByte_of_compared {cfg : DiffCfg} {a : LFile} (h : cfg.skipByte = false) : NoByte cfg a := by
  have hn : ¬ cfg.skipByte = true := by rw [h]; decide
  exact ⟨fun hs => absurd hs hn, fun _ _ => ⟨fun hs => absurd hs hn, fun hs => absurd hs hn⟩⟩

/-- the tool's view of dimension lengths separates what it must separate: two same-named dimensions that look
    equally long to the tool have the same stored length.  Always true for cdfdiff (it compares the stored
    lengths); for ncmpidiff (record dimension seen as numrecs) it says that a record dimension is not compared
    with a fixed dimension of length numrecs. -/
structure LenAgree (cfg : DiffCfg) (a b : LFile) : Prop where
  dims  : ∀ x ∈ a.dims, ∀ y ∈ b.dims, x.name = y.name →
            dimLen cfg a.numrecs x.size = dimLen cfg b.numrecs y.size → x.size = y.size
  vdims : ∀ v ∈ a.vars, ∀ w ∈ b.vars, v.name = w.name → ∀ p ∈ v.dims.zip w.dims, p.1.name = p.2.name →
            dimLen cfg a.numrecs p.1.size = dimLen cfg b.numrecs p.2.size → p.1.size = p.2.size

theorem lenAgree_of_stored {cfg : DiffCfg} {a b : LFile} (h : cfg.recLenIsNumrecs = false) : LenAgree cfg a b := by
  have hd : ∀ n s, dimLen cfg n s = s := by intro n s; simp [dimLen, h]
  exact ⟨fun x _ y _ _ he => by rwa [hd, hd] at he, fun v _ w _ _ p _ _ he => by rwa [hd, hd] at he⟩

theorem attsCrash_of_len (cfg : DiffCfg) {A B : List Att} (h : A.length = B.length) : attsCrash cfg A B = false := by
  unfold attsCrash
  rcases pos_or_nil h with ⟨ha, hb⟩ | ⟨rfl, rfl⟩
  · rw [beq_eq_false_iff_ne.mpr (by omega), beq_eq_false_iff_ne.mpr (by omega)]
    simp
  · simp

theorem recsSame_iff (v w : LVar) : ∀ n, recsSame v w n = true ↔ ∀ r, r < n → v.data r = w.data r := by
  intro n
  induction n with
  | zero => simp [recsSame]
  | succ n ih =>
    simp only [recsSame, Bool.and_eq_true, beq_iff_eq, ih]
    constructor
    · intro ⟨h1, h2⟩ r hr
      by_cases hrn : r = n
      · subst hrn; exact h2
      · exact h1 r (by omega)
    · intro h
      exact ⟨fun r hr => h r (by omega), h n (by omega)⟩

theorem varDataDiff_eq {cfg : DiffCfg} {a b : LFile} {nm : Bytes} {v w : LVar} (hv : findVar a.vars nm = some v)
    (hw : findVar b.vars nm = some w) (ht : v.xtype = w.xtype) (hd : v.dims = w.dims) (hn : a.numrecs = b.numrecs) :
    varDataDiff cfg a b nm =
      if cfg.skipByte = true ∧ v.xtype = .byte then 0 else b2n (!recsSame v w (if v.isRec then a.numrecs else 1)) := by
  unfold varDataDiff
  unfold findVar at hv hw
  rw [hv, hw]
  simp only []
  rw [if_neg (not_not_intro ht), if_neg (by rw [hd]; exact not_not_intro rfl), if_neg (by rw [hd, hn]; exact not_not_intro rfl),
    if_neg (fun h => h.2.2 hn)]

theorem toolDiff_of_logicalEq (cfg : DiffCfg) {a b : LFile} (wa : LWF a) (wb : LWF b) (E : LogicalEq a b) :
    toolDiff cfg a b = .counts 0 0 := by
  have hfa : ∀ v ∈ a.vars, findVar a.vars v.name = some v := by
    rw [findVar_eq_findBy]; exact fun v hv => findBy_self wa.varNames hv
  have hvarsDef := E.varsDef
  have hvarsEq := E.vars
  rw [findVar_eq_findBy] at hvarsDef hvarsEq
  have noCrashG : attsCrash cfg a.gatts b.gatts = false := attsCrash_of_len cfg E.ngatts
  have noCrashV : varsCrash cfg a b = false := by
    unfold varsCrash
    rw [imap_eq_map _ (fun _ => false) a.vars (fun i v hv => by
      rw [lookup_eq_find cfg _ b.vars i v.name wb.varNames]
      cases hf : findBy (fun x : LVar => x.name) b.vars v.name with
      | none => rfl
      | some w => exact attsCrash_of_len cfg (hvarsEq v.name v w (findBy_self wa.varNames hv) hf).natts) 0]
    simp
  have hvars : varsDiff cfg a b = (0, 0) := by
    rw [varsDiff_eq_keyed]
    split
    · exact Prod.ext
        (keyed_zero_of_rel cfg LVarMetaEq wa.varNames wb.varNames
          (fun v hv w hw _ hr => by
            rw [← E.numrecs]
            exact varMeta_zero_of cfg a.numrecs (wa.vatts v hv).1 (wb.vatts w hw).1 hr)
          hvarsDef (fun nm v w hv hw => have e := hvarsEq nm v w hv hw; ⟨e.xtype, e.dims, e.natts, e.atts⟩))
        (keyed_zero_of_rel cfg (fun _ _ => True) wa.varNames wb.varNames
          (fun _ _ _ _ _ _ => rfl) hvarsDef (fun _ _ _ _ _ => trivial))
    · rfl
  have hdata : sumNat (a.vars.map (fun v => varDataDiff cfg a b v.name)) = 0 := by
    rw [sumNat_eq_zero, List.forall_mem_map]
    intro v hv
    cases hf : findVar b.vars v.name with
    | none =>
      unfold varDataDiff
      unfold findVar at hf
      rw [hf, show List.find? _ a.vars = some v from hfa v hv]
    | some w =>
      have e := E.vars v.name v w (hfa v hv) hf
      rw [varDataDiff_eq (hfa v hv) hf e.xtype e.dims E.numrecs]
      split
      · rfl
      · rw [(recsSame_iff v w _).mpr e.data]; rfl
  unfold toolDiff
  rw [noCrashG, noCrashV, hvars, hdata, (b2n_ne_eq_zero _ _).mpr E.fmt, (b2n_ne_eq_zero _ _).mpr E.ndims, (b2n_ne_eq_zero _ _).mpr E.nvars,
    (b2n_ne_eq_zero _ _).mpr E.ngatts, atts_zero_of_eq cfg wa.gatts.1 wb.gatts.1 E.gatts,
    dims_zero_of_eq cfg wa.dimNames wb.dimNames E.numrecs E.dims, E.numrecs]
  -- left: `b2n (cfg.cmpNumrecs && decide (n ≠ n))` and sums of zeros
  simp [b2n]

/-- the tool reports no difference ⇒ same format and same logical content, provided the record counts
    agree (cdfdiff never looks at the second file's), nothing in the first file is of a type the tool skips
    (ncmpidiff: NC_BYTE) and the tool's view of dimension lengths is faithful (`LenAgree`) -/
theorem logicalEq_of_toolDiff (cfg : DiffCfg) {a b : LFile} (wa : LWF a) (wb : LWF b) (nb : NoByte cfg a)
    (ag : LenAgree cfg a b) (hn' : cfg.cmpNumrecs = true ∨ a.numrecs = b.numrecs) (h : toolDiff cfg a b = .counts 0 0) :
    LogicalEq a b := by
  unfold toolDiff at h
  split at h
  · cases h
  simp only [DiffOut.counts.injEq, Nat.add_eq_zero_iff, b2n_ne_eq_zero, sumNat_eq_zero, List.forall_mem_map] at h
  -- the summands of `head` in the order of `toolDiff`, then those of `var`
  obtain ⟨⟨⟨⟨⟨⟨⟨⟨efmt, endims⟩, envars⟩, engatts⟩, hnumrecs⟩, hgatts⟩, hdims⟩, hvmeta⟩, _, hdata⟩ := h
  have hn : a.numrecs = b.numrecs := by
    rcases hn' with hc | hn
    · rw [b2n_eq_zero, hc] at hnumrecs
      simpa using hnumrecs
    · exact hn
  have hvars : (∀ nm, (findVar a.vars nm).isSome = (findVar b.vars nm).isSome) ∧
      ∀ nm v w, findVar a.vars nm = some v → findVar b.vars nm = some w → LVarMetaEq v w := by
    rw [findVar_eq_findBy]
    rcases pos_or_nil envars with hpos | ⟨ha, hb⟩
    · rw [varsDiff_eq_keyed, if_pos hpos] at hvmeta
      exact keyed_rel_of_zero cfg LVarMetaEq wa.varNames wb.varNames
        (fun v hv w hw hnm hd => varMeta_of_zero cfg a.numrecs b.numrecs (wa.vatts v hv) (wb.vatts w hw)
          (nb.vars v hv).2 (ag.vdims v hv w hw hnm) hd) hvmeta
    · rw [ha, hb]
      exact ⟨fun _ => rfl, fun nm v w hv _ => nomatch hv⟩
  refine ⟨efmt, hn, endims, dims_eq_of_zero cfg wa.dimNames wb.dimNames endims ag.dims hdims, engatts,
    atts_eq_of_zero cfg wa.gatts wb.gatts nb.gatts hgatts, envars, hvars.1, fun nm v w hfv hfw => ?_⟩
  have me := hvars.2 nm v w hfv hfw
  obtain ⟨hvm, rfl⟩ := findVar_some hfv
  have t := hdata v hvm
  rw [varDataDiff_eq hfv hfw me.xtype me.dims hn, if_neg (fun c => (nb.vars v hvm).1 c.1 c.2), b2n_eq_zero] at t
  exact ⟨me.xtype, me.dims, me.natts, me.atts, (recsSame_iff v w _).mp (by simpa using t)⟩

theorem same_iff (o : DiffOut) : o.same = true ↔ o = .counts 0 0 := by
  match o with
  | .crash => simp [DiffOut.same]
  | .counts 0 0 => simp [DiffOut.same]
  | .counts 0 (_ + 1) => simp [DiffOut.same]
  | .counts (_ + 1) _ => simp [DiffOut.same]

theorem LogicalEq.refl (a : LFile) : LogicalEq a a :=
  ⟨rfl, rfl, rfl, fun _ => rfl, rfl, fun _ => rfl, rfl, fun _ => rfl,
   fun nm v w hv hw => by rw [hv] at hw; cases hw; exact ⟨rfl, rfl, rfl, fun _ => rfl, fun _ _ => rfl⟩⟩

/-- record-ness of a variable is determined by its dimensions (so for every view `absFile` gives:
    `absFile_recByDims`) -/
def RecByDims (a : LFile) : Prop :=
  ∀ v ∈ a.vars, v.isRec = (match v.dims with | d :: _ => d.size == 0 | [] => false)

theorem isRec_eq {a b : LFile} (ra : RecByDims a) (rb : RecByDims b) {nm : Bytes} {v w : LVar}
    (hv : findVar a.vars nm = some v) (hw : findVar b.vars nm = some w) (hd : v.dims = w.dims) : v.isRec = w.isRec := by
  rw [ra v (findVar_some hv).1, rb w (findVar_some hw).1, hd]

theorem LogicalEq.symm {a b : LFile} (ra : RecByDims a) (rb : RecByDims b) (h : LogicalEq a b) : LogicalEq b a :=
  ⟨h.fmt.symm, h.numrecs.symm, h.ndims.symm, fun nm => (h.dims nm).symm, h.ngatts.symm, fun nm => (h.gatts nm).symm,
   h.nvars.symm, fun nm => (h.varsDef nm).symm,
   fun nm w v hw hv => by
     have e := h.vars nm v w hv hw
     rw [← h.numrecs]
     exact ⟨e.xtype.symm, e.dims.symm, e.natts.symm, fun nm => (e.atts nm).symm,
       fun r hlt => (e.data r (by rw [isRec_eq ra rb hv hw e.dims]; exact hlt)).symm⟩⟩

theorem LogicalEq.trans {a b c : LFile} (rb : RecByDims b) (ra : RecByDims a) (h1 : LogicalEq a b) (h2 : LogicalEq b c) :
    LogicalEq a c :=
  ⟨h1.fmt.trans h2.fmt, h1.numrecs.trans h2.numrecs, h1.ndims.trans h2.ndims, fun nm => (h1.dims nm).trans (h2.dims nm),
   h1.ngatts.trans h2.ngatts, fun nm => (h1.gatts nm).trans (h2.gatts nm), h1.nvars.trans h2.nvars,
   fun nm => (h1.varsDef nm).trans (h2.varsDef nm),
   fun nm v x hv hx => by
     obtain ⟨w, hw⟩ := Option.isSome_iff_exists.mp (by rw [← h1.varsDef nm, hv]; rfl)
     have e1 := h1.vars nm v w hv hw
     have e2 := h2.vars nm w x hw hx
     exact ⟨e1.xtype.trans e2.xtype, e1.dims.trans e2.dims, e1.natts.trans e2.natts,
       fun n => (e1.atts n).trans (e2.atts n),
       fun r hlt => (e1.data r hlt).trans (e2.data r (by rw [← isRec_eq ra rb hv hw e1.dims, ← h1.numrecs]; exact hlt))⟩⟩

theorem absFile_recByDims (h : Hdr) (rs : Nat) (f : Bytes) : RecByDims (absFile h rs f) := by
  intro v hv
  simp only [absFile, List.mem_map] at hv
  obtain ⟨x, _, rfl⟩ := hv
  rfl

theorem rdAt_shift (pre gap rest : Bytes) (b c n : Nat) (h : pre.length ≤ b) :
    rdAt (pre ++ gap ++ rest) (b + gap.length + c) n = rdAt (pre ++ rest) (b + c) n := by
  unfold rdAt
  rw [List.append_assoc, List.drop_append, List.drop_append, List.drop_append,
    List.drop_eq_nil_of_le (Nat.le_trans h (by omega)), List.drop_eq_nil_of_le (by omega),
    List.drop_eq_nil_of_le (Nat.le_trans h (Nat.le_add_right b c))]
  simp only [List.nil_append]
  congr 2
  omega

def shiftBegins (k : Nat) (h : Hdr) : Hdr :=
  { h with vars := h.vars.map (fun v => { v with begin := v.begin + k }) }

/-- moving the whole data section by `gap.length` bytes (more header free space, another alignment of the first
    variable) leaves the view of the diff tools unchanged: same names, types, shapes, attributes, and the same
    bytes for EVERY record index (also beyond numrecs) -/
theorem absFile_shift (h : Hdr) (rs : Nat) (pre gap rest : Bytes) (hb : ∀ v ∈ h.vars, pre.length ≤ v.begin) :
    absFile (shiftBegins gap.length h) rs (pre ++ gap ++ rest) = absFile h rs (pre ++ rest) := by
  unfold absFile shiftBegins
  simp only [List.map_map]
  congr 1
  apply List.map_congr_left
  intro v hv
  simp only [Function.comp]
  congr 1
  funext r
  exact rdAt_shift pre gap rest v.begin _ _ (hb v hv)

/-! for the concrete witness files of C20, whose well-formedness is checked by evaluation -/

instance {α : Type} (nameOf : α → Bytes) (xs : List α) : Decidable (UniqueNames nameOf xs) :=
  inferInstanceAs (Decidable (List.Nodup _))

instance (A : List Att) : Decidable (AttsWF A) := inferInstanceAs (Decidable (_ ∧ _))

instance (cfg : DiffCfg) (A : List Att) : Decidable (NoByteAtts cfg A) := inferInstanceAs (Decidable (_ → _))

end PnVerif.Tools
