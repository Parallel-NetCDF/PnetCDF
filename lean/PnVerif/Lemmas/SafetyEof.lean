import PnVerif.Lemmas.SafetyStrict
import PnVerif.Lemmas.SafetyWork
/-
  Lemmas/SafetyEof.lean — the reader of a tree that carries the F14 repair (Model/Safety.lean §6): the
  flat reader with the end-of-file test answers NC_ENOTNC exactly when a read crosses the end of the
  file, and the window computes that test from its own bookkeeping, which `InvE` keeps right.
-/
namespace PnVerif.Safety
open PnVerif.Spec PnVerif.Header

theorem runE_eq {α : Type} (p : P α) : ∀ (s : Bytes),
    runE p s = if inBounds p s = true then run flatR p s else .error .enotnc := by
  have step {n len : Nat} {b : Bool} {x y : Except Err (α × Bytes)}
      (ih : x = if b = true then y else .error .enotnc) :
      (if len < n then .error .enotnc else x) = if (decide (n ≤ len) && b) = true then y else .error .enotnc := by
    by_cases hl : len < n
    · rw [if_pos hl, decide_eq_false (Nat.not_le.mpr hl), Bool.false_and]
      rfl
    · rw [if_neg hl, decide_eq_true (Nat.not_lt.mp hl), Bool.true_and]
      exact ih
  induction p with
  | ret a => exact fun _ => rfl
  | fail e => exact fun _ => rfl
  | u32 k ih => exact fun s => step (ih _ _)
  | u64 k ih => exact fun s => step (ih _ _)
  | bytes n k ih => exact fun s => step (ih _ _)
  | pad q k ih => exact fun s => step (ih _)

/-- is the header completely in the file: no primitive read of the run crosses the end of the file -/
def complete (st : Bool) (file : Bytes) : Bool :=
  match checkMagic (ztake 12 file) with
  | .ok f => inBounds (getBodyS st f) (file.drop 4)
  | .error _ => true

theorem decodeWholeVar_eq (v : Variant) (file : Bytes) :
    decodeWholeVar v file =
      if v.eof = true ∧ complete v.int63 file = false then .error .enotnc else decodeWholeS v.int63 file := by
  unfold decodeWholeVar decodeWholeS complete
  cases checkMagic (ztake 12 file) with
  | error e => simp
  | ok f =>
    cases v.eof with
    | false => simp
    | true =>
      dsimp only
      rw [runE_eq]
      by_cases hin : inBounds (getBodyS v.int63 f) (file.drop 4) = true
      · simp [hin]
      · simp [hin]

/-- the window presents the stream AND its bookkeeping knows where the stream is in the file -/
structure InvE (file : Bytes) (chunk : Nat) (w : Win) (s : Bytes) : Prop where
  inv : Inv file chunk w s
  num : w.off + w.pos + s.length = chunk + file.length

variable {file : Bytes} {chunk : Nat} {w : Win} {s : Bytes}

theorem InvE.step (h : InvE file chunk w s) {k : Nat} {w' : Win} (hi : Inv file chunk w' (s.drop k))
    (hn : w'.off + w'.pos = w.off + w.pos + k) (hav : ¬ s.length < k) : InvE file chunk w' (s.drop k) := by
  refine ⟨hi, ?_⟩
  have := h.num
  rw [List.length_drop]
  omega

/-- HDR_REMAIN computed from offset / pos / end is the length of the stream that is left, so the window
    reader (`x`, stopping in `v`) and the flat reader (`y`) are refused together. -/
theorem eofTest_sim (h : InvE file chunk w s) {n : Nat} {z : Int} (hz : z = n) {α : Type}
    {x : Except Err (α × Win)} {y : Except Err (α × Bytes)} {v : Win}
    (hgo : ¬ s.length < n → SimRes file chunk x y ∧ ∃ s', InvE file chunk v s') :
    SimRes file chunk (if z > hdrRemain file chunk w then .error .enotnc else x)
        (if s.length < n then .error .enotnc else y) ∧
      ∃ s', InvE file chunk (if z > hdrRemain file chunk w then w else v) s' := by
  have hiff : z > hdrRemain file chunk w ↔ s.length < n := by
    have := h.num
    have := h.inv.pos
    unfold hdrRemain
    omega
  by_cases hl : s.length < n
  · rw [if_pos hl, if_pos (hiff.mpr hl), if_pos (hiff.mpr hl)]
    exact ⟨rfl, s, h⟩
  · rw [if_neg hl, if_neg (mt hiff.mp hl), if_neg (mt hiff.mp hl)]
    exact hgo hl

/-- The window reader with the end-of-file test (computed from its own bookkeeping, as in the C)
    refines the flat reader with the end-of-file test: same value or same error, for EVERY reader
    program, chunk size ≥ 8, file and reachable state.  And wherever the run stops, the window still
    satisfies its invariant: in particular offset ≤ chunk + file size. -/
theorem runWE_sim (hc : 8 ≤ chunk) {α : Type} (p : P α) :
    ∀ (w : Win) (s : Bytes), InvE file chunk w s →
      SimRes file chunk (runWE file chunk p w) (runE p s) ∧ ∃ s', InvE file chunk (endWinE file chunk p w) s' := by
  induction p with
  | ret a => exact fun w s h => ⟨⟨rfl, h.inv⟩, s, h⟩
  | fail e => exact fun w s h => ⟨rfl, s, h⟩
  | u32 k ih =>
    intro w s h
    refine eofTest_sim h (n := 4) rfl fun hl => ?_
    obtain ⟨hv, hi⟩ := getFixedW_spec (k := 4) h.inv (by omega)
    rw [← hv]
    exact ih _ _ _ (h.step hi (getFixedW_num h.inv (by omega)) hl)
  | u64 k ih =>
    intro w s h
    refine eofTest_sim h (n := 8) rfl fun hl => ?_
    obtain ⟨hv, hi⟩ := getFixedW_spec (k := 8) h.inv (by omega)
    rw [← hv]
    exact ih _ _ _ (h.step hi (getFixedW_num h.inv (by omega)) hl)
  | bytes n k ih =>
    intro w s h
    refine eofTest_sim h (n := n) rfl fun hl => ?_
    obtain ⟨hv, hi⟩ := getBytesW_nil (by omega) n h.inv
    rw [← hv]
    exact ih _ _ _ (h.step hi (getBytesW_num (by omega) n w s h.inv []) hl)
  | pad q k ih =>
    intro w s h
    refine eofTest_sim h (n := q.val) rfl fun hl => ?_
    exact ih _ _ (h.step (padW_spec h.inv (by omega)) (padW_num h.inv (by omega)) hl)

/-- in a file of fewer than 4 bytes the version byte is a 0 of the zero fill, and the magic test
    refuses version 0 -/
theorem magic_length {file : Bytes} {f : Fmt} (h : checkMagic (ztake 12 file) = .ok f) : 4 ≤ file.length := by
  refine Nat.not_lt.mp fun hlt => ?_
  have hv : ((ztake 12 file).drop 3).take 1 = [0] := by
    rw [drop_ztake (by decide : 3 ≤ 12), List.drop_of_length_le (Nat.le_of_lt_succ hlt), ztake_nil]; rfl
  unfold checkMagic at h
  split at h
  · split at h <;> cases h
  · simp only [hv] at h
    rw [if_neg (by decide), if_neg (by decide), if_neg (by decide)] at h
    cases h

theorem invE_init (file : Bytes) (c : Nat) (h4 : 4 ≤ file.length) :
    InvE file (chunkOf c) { buf := ztake (chunkOf c) file, pos := 4, off := chunkOf c } (file.drop 4) := by
  refine ⟨inv_body c file, ?_⟩
  simp only [List.length_drop]
  omega

end PnVerif.Safety
