import PnVerif.Model.Layout
/-
  Lemmas about Model/Layout.lean: rounding, the alignment precedence, the two passes of NC_begins.
-/
namespace PnVerif.Layout
open PnVerif.Spec PnVerif.Header

theorem rndup_ge (x u : Nat) (hu : 0 < u) : x ≤ rndup x u := by
  unfold rndup
  have h1 := Nat.div_add_mod (x + u - 1) u
  have h2 := Nat.mod_lt (x + u - 1) hu
  rw [Nat.mul_comm] at h1
  omega

theorem rndup_lt (x u : Nat) (hu : 0 < u) : rndup x u < x + u := by
  unfold rndup
  have h1 := Nat.div_add_mod (x + u - 1) u
  rw [Nat.mul_comm] at h1
  omega

theorem rndup_dvd (x u : Nat) : u ∣ rndup x u := by
  unfold rndup; exact Nat.dvd_mul_left _ _

theorem rndup_mod (x u : Nat) : rndup x u % u = 0 := Nat.mod_eq_zero_of_dvd (rndup_dvd x u)

theorem rndup_mod4 (x u : Nat) (h4 : u % 4 = 0) : rndup x u % 4 = 0 := by
  have h : 4 ∣ u := Nat.dvd_of_mod_eq_zero h4
  exact Nat.mod_eq_zero_of_dvd (Nat.dvd_trans h (rndup_dvd x u))

theorem rndup_id (x u : Nat) (hu : 0 < u) (h : x % u = 0) : rndup x u = x := by
  have h1 := rndup_ge x u hu
  have h2 := rndup_lt x u hu
  have : (rndup x u - x) % u = 0 := Nat.sub_mod_eq_zero_of_mod_eq (by rw [rndup_mod, h])
  have := Nat.eq_zero_of_dvd_of_lt (Nat.dvd_of_mod_eq_zero this) (by omega)
  omega

theorem rndup4_le_of_aligned (x y : Nat) (h : x ≤ y) (hy : y % 4 = 0) : rndup x 4 ≤ y := by
  have h1 := rndup_lt x 4 (by omega)
  have h2 := rndup_mod x 4
  omega

/-- alignments NC_begins can work with: positive multiples of 4 -/
structure AlignOk (al : Align) : Prop where
  hpos : 0 < al.hAlign
  h4   : al.hAlign % 4 = 0
  rpos : 0 < al.rAlign
  r4   : al.rAlign % 4 = 0

theorem rndup4_pos (h : Nat) (hh : h ≠ 0) : 0 < rndup h 4 := by
  have := rndup_ge h 4 (by omega); omega

/-- an alignment as ncmpio__enddef leaves it -/
theorem align4_ok (x : Nat) : 0 < (if x = 0 then 4 else rndup x 4) ∧ (if x = 0 then 4 else rndup x 4) % 4 = 0 := by
  split
  · exact ⟨by omega, rfl⟩
  · rename_i h; exact ⟨rndup4_pos x h, rndup_mod x 4⟩

/-- whatever hints and arguments are given, ncmpio__enddef hands NC_begins positive multiples of 4 -/
theorem resolveAlign_ok (envH envV envR hMin argV vMin argR numFix : Nat) (isRedef : Bool) :
    AlignOk (resolveAlign envH envV envR hMin argV vMin argR numFix isRedef) := by
  unfold resolveAlign
  exact ⟨(align4_ok _).1, (align4_ok _).2, (align4_ok _).1, (align4_ok _).2⟩


/-- the begins `bs` place the variables `vs` one after the other starting not before `prev`,
    without overlap: prev ≤ b₀, b₀ + len₀ ≤ b₁, … -/
def chainOk : List VarL → List Nat → Nat → Prop
  | [], [], _ => True
  | v :: vs, b :: bs, prev => prev ≤ b ∧ chainOk vs bs (b + v.len)
  | _, _, _ => False

/-- end of the last variable of the chain (`e` if there is none) -/
def endOf : List VarL → List Nat → Nat → Nat
  | v :: vs, b :: bs, _ => endOf vs bs (b + v.len)
  | _, _, e => e

/-- pairwise old ≤ new over the common prefix (nothing moves towards the file start) -/
def geOld : List Nat → List Nat → Prop
  | o :: os, b :: bs => o ≤ b ∧ geOld os bs
  | _, _ => True

/-- variables laid out back to back from `b` -/
def consec : List VarL → Nat → List Nat
  | [], _ => []
  | v :: vs, b => b :: consec vs (b + v.len)

def sumLen (vs : List VarL) : Nat := (vs.map (·.len)).sum

/-- the record size the format prescribes: the sum of the padded lengths, or the unpadded size of
    one record when there is exactly one record variable -/
def specRecsize (recs : List VarL) : Nat :=
  match recs with
  | [v] => v.packed
  | rs => sumLen rs

/-- the last step of both passes; stated at their types, so that the `match` is the model's own -/
theorem ok_cons_inv {X : Nat → Except Err (List Nat × Nat)} {b c : Nat} {bs : List Nat} {e' : Nat} (hc : c = b)
    (h : (match X b with
      | .error er => .error er
      | .ok (bs, e') => .ok (b :: bs, e')) = Except.ok (bs, e')) :
    ∃ bs', bs = c :: bs' ∧ X c = .ok (bs', e') := by
  subst hc
  split at h
  · contradiction
  · rename_i bs' e2 hrec
    simp only [Except.ok.injEq, Prod.mk.injEq] at h
    exact ⟨bs', h.1.symm, h.2 ▸ hrec⟩

/-- one step of the first pass: RNDUP(end_var, 4), but not below the begin in the old header -/
theorem passFixed_cons {fmt : Fmt} {v : VarL} {vs : List VarL} {ob : List Nat} {e : Nat} {bs : List Nat} {e' : Nat}
    (h : passFixed fmt (v :: vs) ob e = .ok (bs, e')) :
    ∃ bs', bs = max (rndup e 4) (ob.headD 0) :: bs' ∧
      passFixed fmt vs (ob.drop 1) (max (rndup e 4) (ob.headD 0) + v.len) = .ok (bs', e') := by
  rw [passFixed] at h
  split at h
  · contradiction
  · cases ob with
    | nil => exact ok_cons_inv (X := fun b => passFixed fmt vs [] (b + v.len)) (Nat.max_zero _) h
    | cons o os =>
      exact ok_cons_inv (X := fun b => passFixed fmt vs os (b + v.len))
        (by simp only [List.headD_cons]; split <;> omega) h

theorem passFixed_spec (fmt : Fmt) : ∀ (vs : List VarL) (ob : List Nat) (e : Nat) (bs : List Nat) (e' : Nat),
    passFixed fmt vs ob e = .ok (bs, e') →
      chainOk vs bs e ∧ e' = endOf vs bs e ∧ geOld ob bs ∧ bs.length = vs.length ∧
      ((∀ o ∈ ob, o % 4 = 0) → ∀ b ∈ bs, b % 4 = 0) := by
  intro vs
  induction vs with
  | nil =>
    intro ob e bs e' h
    simp only [passFixed, Except.ok.injEq, Prod.mk.injEq] at h
    obtain ⟨rfl, rfl⟩ := h
    exact ⟨trivial, rfl, by cases ob <;> trivial, rfl, fun _ b hb => nomatch hb⟩
  | cons v vs ih =>
    intro ob e bs e' h
    obtain ⟨bs', rfl, hrec⟩ := passFixed_cons h
    obtain ⟨h1, h2, h3, h4, h5⟩ := ih _ _ _ _ hrec
    have hge := rndup_ge e 4 (by omega)
    refine ⟨⟨by omega, h1⟩, h2, ?_, congrArg (· + 1) h4, fun ho b hb => ?_⟩
    · cases ob with
      | nil => trivial
      | cons o os => exact ⟨Nat.le_max_right _ _, h3⟩
    · rcases List.mem_cons.mp hb with rfl | hb'
      · have := rndup_mod e 4
        have : ob.headD 0 % 4 = 0 := by
          cases ob with
          | nil => rfl
          | cons o os => exact ho o List.mem_cons_self
        omega
      · exact h5 (fun o ho' => ho o (List.mem_of_mem_drop ho')) b hb'


/-- `ob` is an initial segment of `l` -/
def IsPrefix (ob l : List Nat) : Prop := ∃ k, ob = l.take k

theorem isPrefix_nil (l : List Nat) : IsPrefix [] l := ⟨0, by simp⟩

theorem isPrefix_consec_cons {ob : List Nat} {v : VarL} {vs : List VarL} {eo : Nat}
    (h : IsPrefix ob (consec (v :: vs) eo)) :
    (ob = [] ∨ ob.headD 0 = eo) ∧ IsPrefix (ob.drop 1) (consec vs (eo + v.len)) := by
  obtain ⟨k, rfl⟩ := h
  cases k with
  | zero => exact ⟨Or.inl rfl, isPrefix_nil _⟩
  | succ k => exact ⟨Or.inr rfl, k, rfl⟩

/-- one step of the second pass: end_var, but not below the begin in the old header -/
theorem passRec_cons {fmt : Fmt} {v : VarL} {vs : List VarL} {ob : List Nat} {e rs : Nat} {bs : List Nat} {rs' : Nat}
    (h : passRec fmt (v :: vs) ob e rs = .ok (bs, rs')) :
    ∃ bs', bs = max e (ob.headD 0) :: bs' ∧
      passRec fmt vs (ob.drop 1) (e + v.len) (rs + v.len) = .ok (bs', rs') := by
  simp only [passRec] at h
  split at h
  · contradiction
  · cases ob with
    | nil => exact ok_cons_inv (X := fun _ => passRec fmt vs [] (e + v.len) (rs + v.len)) (Nat.max_zero _) h
    | cons o os =>
      exact ok_cons_inv (X := fun _ => passRec fmt vs os (e + v.len) (rs + v.len))
        (by simp only [List.headD_cons]; split <;> omega) h
theorem sumLen_cons (v : VarL) (vs : List VarL) : sumLen (v :: vs) = v.len + sumLen vs := by
  simp [sumLen]

/-- second pass: if the old record variables are an initial segment of the new ones (same lengths,
    laid out back to back from an old begin_rec that is not after the new one) — which is what a
    redefinition can produce, variables being only ever appended — the record variables come out
    back to back from begin_rec, and recsize is the sum of their lengths -/
theorem passRec_spec (fmt : Fmt) : ∀ (vs : List VarL) (ob : List Nat) (e rs eo : Nat) (bs : List Nat) (rs' : Nat),
    passRec fmt vs ob e rs = .ok (bs, rs') → IsPrefix ob (consec vs eo) → eo ≤ e →
      bs = consec vs e ∧ rs' = rs + sumLen vs := by
  intro vs
  induction vs with
  | nil =>
    intro ob e rs eo bs rs' h _ _
    simp only [passRec, Except.ok.injEq, Prod.mk.injEq] at h
    obtain ⟨rfl, rfl⟩ := h
    exact ⟨rfl, rfl⟩
  | cons v vs ih =>
    intro ob e rs eo bs rs' h hp hle
    obtain ⟨bs', rfl, hrec⟩ := passRec_cons h
    obtain ⟨hhead, htail⟩ := isPrefix_consec_cons hp
    obtain ⟨rfl, rfl⟩ := ih _ _ _ (eo + v.len) _ _ hrec htail (by omega)
    have : max e (ob.headD 0) = e := by
      rcases hhead with rfl | h0
      · exact Nat.max_zero _
      · omega
    rw [this, sumLen_cons, Nat.add_assoc]
    exact ⟨rfl, rfl⟩

theorem consec_length (vs : List VarL) (b : Nat) : (consec vs b).length = vs.length := by
  induction vs generalizing b with
  | nil => rfl
  | cons v vs ih => simp [consec, ih]

theorem consec_mod4 (vs : List VarL) (b : Nat) (hb : b % 4 = 0) (hl : ∀ v ∈ vs, v.len % 4 = 0) :
    ∀ x ∈ consec vs b, x % 4 = 0 := by
  induction vs generalizing b with
  | nil => intro x hx; cases hx
  | cons v vs ih =>
    intro x hx
    simp only [consec, List.mem_cons] at hx
    rcases hx with rfl | hx
    · exact hb
    · have := hl v (by simp)
      exact ih (b + v.len) (by omega) (fun w hw => hl w (by simp [hw])) x hx

theorem consec_ge (vs : List VarL) (b : Nat) : ∀ x ∈ consec vs b, b ≤ x := by
  induction vs generalizing b with
  | nil => intro x hx; cases hx
  | cons v vs ih =>
    intro x hx
    simp only [consec, List.mem_cons] at hx
    rcases hx with rfl | hx
    · exact Nat.le_refl _
    · have := ih (b + v.len) x hx; omega

theorem geOld_consec (vs : List VarL) (eo e : Nat) (h : eo ≤ e) (ob : List Nat) (hp : IsPrefix ob (consec vs eo)) :
    geOld ob (consec vs e) := by
  induction vs generalizing eo e ob with
  | nil =>
    obtain ⟨k, rfl⟩ := hp
    cases k <;> trivial
  | cons v vs ih =>
    obtain ⟨hhead, htail⟩ := isPrefix_consec_cons hp
    cases ob with
    | nil => trivial
    | cons o os =>
      rcases hhead with h0 | h0
      · cases h0
      · exact ⟨Nat.le_trans (Nat.le_of_eq h0) h, ih _ _ (by omega) _ htail⟩


/-- what NC_begins may assume of ncp->old: it is itself a layout with 4-aligned begins whose record
    variables are an initial segment of the present ones, laid out back to back from its begin_rec -/
structure OldOk (vars : List VarL) (o : Old) : Prop where
  begins4   : ∀ p ∈ o.vars, p.2 % 4 = 0
  rec4      : o.beginRec % 4 = 0
  recPrefix : IsPrefix ((o.vars.filter (fun p => p.1)).map (·.2)) (consec (vars.filter (fun v => v.isRec)) o.beginRec)
  varLeRec  : o.beginVar ≤ o.beginRec

/-- the layout rules of the classic format + the alignment requests + monotonicity on redefinition -/
structure LayoutWF (xsz : Nat) (vars : List VarL) (al : Align) (old : Option Old) (L : Layout) : Prop where
  /-- one begin per variable -/
  nFixed   : L.fixedBegins.length = (vars.filter (fun v => !v.isRec)).length
  /-- every begin is a multiple of 4 -/
  fixed4   : ∀ b ∈ L.fixedBegins, b % 4 = 0
  rec4     : L.beginRec % 4 = 0 ∧ ∀ b ∈ L.recBegins, b % 4 = 0
  /-- the header (plus the requested free space) fits before the first variable; fixed-size variables
      follow in definition order without overlap; the record section starts after them (plus the
      requested free space) -/
  fixedOk  : ∃ bv0, xsz ≤ bv0 ∧ (vars ≠ [] → xsz + al.hMinfree ≤ bv0) ∧
               chainOk (vars.filter (fun v => !v.isRec)) L.fixedBegins bv0 ∧
               endOf (vars.filter (fun v => !v.isRec)) L.fixedBegins bv0 + al.vMinfree ≤ L.beginRec
  /-- header extent = begin of the first variable -/
  extent   : L.beginVar = L.fixedBegins.headD L.beginRec
  /-- record variables are consecutive inside a record, from begin_rec -/
  recs     : L.recBegins = consec (vars.filter (fun v => v.isRec)) L.beginRec
  /-- record size: sum of the (padded) lengths, or the unpadded size for exactly one record variable -/
  recsize  : L.recsize = specRecsize (vars.filter (fun v => v.isRec))
  /-- requested alignments -/
  alignVar : old = none → vars.filter (fun v => !v.isRec) ≠ [] → L.beginVar % al.hAlign = 0
  alignRec : L.beginRec % al.rAlign = 0 ∨ ∃ o, old = some o ∧ L.beginRec = o.beginRec
  /-- a redefinition never moves anything towards the start of the file -/
  monotone : ∀ o, old = some o → o.beginVar ≤ L.beginVar ∧ o.beginRec ≤ L.beginRec ∧
               geOld ((o.vars.filter (fun p => !p.1)).map (·.2)) L.fixedBegins ∧
               geOld ((o.vars.filter (fun p => p.1)).map (·.2)) L.recBegins

theorem initExtent_spec (xsz nvars : Nat) (al : Align) (old : Option Old) (hal : AlignOk al) :
    xsz ≤ initExtent xsz nvars al old ∧ (nvars > 0 → xsz + al.hMinfree ≤ initExtent xsz nvars al old) ∧
    (∀ o, old = some o → o.beginVar ≤ initExtent xsz nvars al old) ∧
    (old = none → nvars > 0 → initExtent xsz nvars al old % al.hAlign = 0) := by
  have hge := rndup_ge (xsz + al.hMinfree) al.hAlign hal.hpos
  have hx : xsz ≤ (if nvars > 0 then rndup (xsz + al.hMinfree) al.hAlign else xsz) ∧ (nvars > 0 →
      xsz + al.hMinfree ≤ (if nvars > 0 then rndup (xsz + al.hMinfree) al.hAlign else xsz) ∧
      (if nvars > 0 then rndup (xsz + al.hMinfree) al.hAlign else xsz) % al.hAlign = 0) := by
    split
    · exact ⟨by omega, fun _ => ⟨hge, rndup_mod _ _⟩⟩
    · exact ⟨Nat.le_refl _, fun h => absurd h ‹_›⟩
  unfold initExtent
  generalize (if nvars > 0 then rndup (xsz + al.hMinfree) al.hAlign else xsz) = bv at hx ⊢
  cases old with
  | none => exact ⟨hx.1, fun h => (hx.2 h).1, fun o ho => (nomatch ho), fun _ h => (hx.2 h).2⟩
  | some o =>
    dsimp only
    refine ⟨by split <;> omega, fun h => ?_, fun o' ho => ?_, fun h => nomatch h⟩
    · have := (hx.2 h).1
      split <;> omega
    · cases ho
      split <;> omega

theorem recStart_spec (al : Align) (beginRec0 endVar : Nat) (old : Option Old) (hal : AlignOk al)
    (ho4 : ∀ o, old = some o → o.beginRec % 4 = 0) :
    endVar + al.vMinfree ≤ recStart al beginRec0 endVar old ∧ recStart al beginRec0 endVar old % 4 = 0 ∧
    (recStart al beginRec0 endVar old % al.rAlign = 0 ∨ ∃ o, old = some o ∧ recStart al beginRec0 endVar old = o.beginRec) ∧
    (∀ o, old = some o → o.beginRec ≤ recStart al beginRec0 endVar old) := by
  -- the value before the comparison with the old begin_rec
  obtain ⟨y, hy, k1, k2, k3⟩ : ∃ y, (if al.rAlign > 1 then rndup (rndup (if beginRec0 < endVar + al.vMinfree
      then endVar + al.vMinfree else beginRec0) 4) al.rAlign else rndup (if beginRec0 < endVar + al.vMinfree
      then endVar + al.vMinfree else beginRec0) 4) = y ∧
      endVar + al.vMinfree ≤ y ∧ y % 4 = 0 ∧ y % al.rAlign = 0 := by
    refine ⟨_, rfl, ?_⟩
    generalize hx : (if beginRec0 < endVar + al.vMinfree then endVar + al.vMinfree else beginRec0) = x
    have h1 : endVar + al.vMinfree ≤ x := by subst hx; split <;> omega
    have h2 := rndup_ge x 4 (by omega)
    split
    · have h3 := rndup_ge (rndup x 4) al.rAlign hal.rpos
      exact ⟨by omega, rndup_mod4 _ _ hal.r4, rndup_mod _ _⟩
    · have hr1 : al.rAlign = 1 := by have := hal.rpos; omega
      have := hal.r4
      omega
  unfold recStart
  simp only [hy]
  cases old with
  | none => exact ⟨k1, k2, Or.inl k3, fun o ho => nomatch ho⟩
  | some o =>
    simp only
    have ho := ho4 o rfl
    split
    · exact ⟨by omega, ho, Or.inr ⟨o, rfl, rfl⟩, fun o' ho' => by cases ho'; omega⟩
    · exact ⟨k1, k2, Or.inl k3, fun o' ho' => by cases ho'; omega⟩

theorem le_sumLen_of_mem (vs : List VarL) (l : VarL) (h : l ∈ vs) : l.len ≤ sumLen vs := by
  induction vs with
  | nil => cases h
  | cons a t ih =>
    rw [sumLen_cons]
    rcases List.mem_cons.mp h with rfl | h'
    · omega
    · have := ih h'; omega

theorem packRecsize_spec (recs : List VarL) (hpos : ∀ v ∈ recs, 0 < v.len) :
    packRecsize recs (sumLen recs) = specRecsize recs := by
  unfold packRecsize specRecsize
  match recs, hpos with
  | [], _ => simp
  | [v], _ => simp [sumLen]
  | a :: b :: rest, hp =>
    have hlast : ∃ l, (a :: b :: rest).getLast? = some l ∧ l ∈ (b :: rest) := by
      refine ⟨(b :: rest).getLast (by simp), ?_, List.getLast_mem _⟩
      simp [List.getLast?_eq_some_getLast]
    obtain ⟨l, hl, hmem⟩ := hlast
    rw [hl]
    simp only
    have ha := hp a (by simp)
    have hle : l.len ≤ sumLen (b :: rest) := le_sumLen_of_mem _ _ hmem
    have : ¬ sumLen (a :: b :: rest) = l.len := by rw [sumLen_cons]; omega
    simp [this]


theorem mem_filter_len {vars : List VarL} {p : VarL → Bool} (hlen : ∀ v ∈ vars, v.len % 4 = 0 ∧ 0 < v.len) :
    ∀ v ∈ vars.filter p, v.len % 4 = 0 ∧ 0 < v.len :=
  fun v hv => hlen v (List.mem_filter.mp hv).1

theorem chainOk_head {vs : List VarL} {b : Nat} {bs : List Nat} {e : Nat} (h : chainOk vs (b :: bs) e) : e ≤ b := by
  cases vs with
  | nil => exact h.elim
  | cons v vs => exact h.1

/-- the steps of an accepted NC_begins -/
theorem ncBegins_ok {fmt : Fmt} {xsz : Nat} {vars : List VarL} {al : Align} {beginRec0 : Nat} {old : Option Old}
    {L : Layout} (h : ncBegins fmt xsz vars al beginRec0 old = .ok L) :
    ∃ endVar recsize,
      passFixed fmt (vars.filter fun v => !v.isRec) (oldFixedBegins old) (initExtent xsz vars.length al old)
        = .ok (L.fixedBegins, endVar) ∧
      L.beginRec = recStart al beginRec0 endVar old ∧
      passRec fmt (vars.filter fun v => v.isRec) (oldRecBegins old) L.beginRec 0 = .ok (L.recBegins, recsize) ∧
      L.recsize = packRecsize (vars.filter fun v => v.isRec) recsize ∧
      L.beginVar = L.fixedBegins.headD L.beginRec := by
  unfold ncBegins at h
  simp only [] at h
  split at h
  · contradiction
  · rename_i fb endVar hfix
    split at h
    · contradiction
    · rename_i rb recsize hrec
      cases h
      exact ⟨endVar, recsize, hfix, rfl, hrec, rfl, by cases fb <;> rfl⟩

/-- NC_begins, for every input it accepts — a new file (`old = none`) or a redefinition (`old = some o`
    with `o` itself a well-formed layout of an initial segment of the variables) — produces a layout
    that satisfies every rule of `LayoutWF`. -/
theorem ncBegins_wf (fmt : Fmt) (xsz : Nat) (vars : List VarL) (al : Align) (beginRec0 : Nat) (old : Option Old)
    (L : Layout) (hal : AlignOk al) (hlen : ∀ v ∈ vars, v.len % 4 = 0 ∧ 0 < v.len)
    (hold : ∀ o, old = some o → OldOk vars o ∧ beginRec0 = o.beginRec)
    (h : ncBegins fmt xsz vars al beginRec0 old = .ok L) : LayoutWF xsz vars al old L := by
  obtain ⟨endVar, recsize, hfix, hbr, hrec, hrs, hbv⟩ := ncBegins_ok h
  obtain ⟨i1, i2, i3, i4⟩ := initExtent_spec xsz vars.length al old hal
  obtain ⟨r1, r2, r3, r4⟩ := recStart_spec al beginRec0 endVar old hal fun o ho => (hold o ho).1.rec4
  rw [← hbr] at r1 r2 r3 r4
  obtain ⟨hob4, eo, hpre, hle⟩ : (∀ x ∈ oldFixedBegins old, x % 4 = 0) ∧ ∃ eo,
      IsPrefix (oldRecBegins old) (consec (vars.filter fun v => v.isRec) eo) ∧ eo ≤ L.beginRec := by
    cases old with
    | none => exact ⟨fun x hx => (nomatch hx), 0, isPrefix_nil _, Nat.zero_le _⟩
    | some o =>
      refine ⟨fun x hx => ?_, o.beginRec, (hold o rfl).1.recPrefix, r4 o rfl⟩
      obtain ⟨p, hp, rfl⟩ := List.mem_map.mp hx
      exact (hold o rfl).1.begins4 p (List.mem_filter.mp hp).1
  obtain ⟨f1, f2, f3, f4, f6⟩ := passFixed_spec fmt _ _ _ _ _ hfix
  obtain ⟨p1, p2⟩ := passRec_spec fmt _ _ _ _ _ _ _ hrec hpre hle
  rw [Nat.zero_add] at p2
  have hlenR := mem_filter_len (p := fun v => v.isRec) hlen
  refine ⟨f4, f6 hob4, ⟨r2, p1 ▸ consec_mod4 _ _ r2 fun v hv => (hlenR v hv).1⟩,
    ⟨_, i1, fun hne => i2 (List.length_pos_iff.mpr hne), f1, f2 ▸ r1⟩, hbv, p1,
    by rw [hrs, p2]; exact packRecsize_spec _ fun v hv => (hlenR v hv).2, ?_, r3, ?_⟩
  · -- alignVar: the first fixed-size variable begins at RNDUP(extent, 4) = extent
    intro hnone hne
    subst hnone
    have hm := i4 rfl (List.length_pos_iff.mpr fun hv => hne (by rw [hv]; rfl))
    have hm4 : initExtent xsz vars.length al none % 4 = 0 := by
      rw [← Nat.mod_mod_of_dvd _ (Nat.dvd_of_mod_eq_zero hal.h4), hm]
    cases hvs : vars.filter (fun v => !v.isRec) with
    | nil => exact absurd hvs hne
    | cons v vs =>
      rw [hvs] at hfix
      obtain ⟨bs', hbs, _⟩ := passFixed_cons hfix
      rw [hbv, hbs]
      show max (rndup (initExtent xsz vars.length al none) 4) 0 % al.hAlign = 0
      rw [Nat.max_zero, rndup_id _ 4 (by omega) hm4]
      exact hm
  · -- monotone
    intro o ho
    subst ho
    refine ⟨?_, r4 o rfl, f3, p1 ▸ geOld_consec _ _ _ (r4 o rfl) _ (hold o rfl).1.recPrefix⟩
    rw [hbv]
    cases hfb : L.fixedBegins with
    | nil => exact Nat.le_trans (hold o rfl).1.varLeRec (r4 o rfl)
    | cons b bs => exact Nat.le_trans (i3 o rfl) (chainOk_head (hfb ▸ f1))


/-! ### redefinition histories: the well-formedness of one layout is what the next NC_begins needs -/

/-- ncp->old as the next NC_begins will see it (dup_NC of the header at ncmpi_redef) -/
def toOld (vars : List VarL) (L : Layout) : Old :=
  { beginVar := L.beginVar, beginRec := L.beginRec,
    vars := (vars.map (·.isRec)).zip (interleave vars L.fixedBegins L.recBegins) }

theorem toOld_filters : ∀ (vars : List VarL) (fb rb : List Nat),
    fb.length = (vars.filter (fun v => !v.isRec)).length → rb.length = (vars.filter (fun v => v.isRec)).length →
    ((((vars.map (·.isRec)).zip (interleave vars fb rb)).filter (fun p => !p.1)).map (·.2) = fb) ∧
    ((((vars.map (·.isRec)).zip (interleave vars fb rb)).filter (fun p => p.1)).map (·.2) = rb) ∧
    (∀ x ∈ interleave vars fb rb, x ∈ fb ∨ x ∈ rb) := by
  intro vars
  induction vars with
  | nil =>
    intro fb rb hf hr
    cases List.eq_nil_of_length_eq_zero hf
    cases List.eq_nil_of_length_eq_zero hr
    exact ⟨rfl, rfl, fun x hx => nomatch hx⟩
  | cons v vs ih =>
    intro fb rb hf hr
    cases hv : v.isRec with
    | true =>
      simp only [List.filter_cons, hv, Bool.not_true, Bool.false_eq_true, if_false, if_true] at hf hr
      cases rb with
      | nil => cases hr
      | cons r rs =>
        obtain ⟨i1, i2, i3⟩ := ih fb rs hf (Nat.succ.inj hr)
        simp only [interleave, hv, if_true, List.map_cons, List.zip_cons_cons, List.filter_cons, Bool.not_true,
          Bool.false_eq_true, if_false, List.headD_cons, List.drop_succ_cons, List.drop_zero, i1, i2, List.mem_cons]
        exact ⟨trivial, trivial, fun x hx => hx.elim (fun h => .inr (.inl h)) fun h => (i3 x h).imp_right .inr⟩
    | false =>
      simp only [List.filter_cons, hv, Bool.not_false, Bool.false_eq_true, if_false, if_true] at hf hr
      cases fb with
      | nil => cases hf
      | cons f fs =>
        obtain ⟨i1, i2, i3⟩ := ih fs rb (Nat.succ.inj hf) hr
        simp only [interleave, hv, Bool.false_eq_true, if_false, List.map_cons, List.zip_cons_cons, List.filter_cons,
          Bool.not_false, if_true, List.headD_cons, List.drop_succ_cons, List.drop_zero, i1, i2, List.mem_cons]
        exact ⟨trivial, trivial, fun x hx => hx.elim (fun h => .inl (.inl h)) fun h => (i3 x h).imp_left .inr⟩
theorem consec_append_take (vs ws : List VarL) (b : Nat) : consec vs b = (consec (vs ++ ws) b).take vs.length := by
  induction vs generalizing b with
  | nil => simp [consec]
  | cons v vs ih => simp [consec, ← ih]

theorem chainOk_le_endOf : ∀ (vs : List VarL) (bs : List Nat) (e : Nat), chainOk vs bs e → e ≤ endOf vs bs e ∧
    ∀ b ∈ bs, b ≤ endOf vs bs e := by
  intro vs bs e
  fun_induction chainOk vs bs e with
  | case1 => exact fun _ => ⟨Nat.le_refl _, fun b hb => nomatch hb⟩
  | case2 v vs b bs prev ih =>
    intro h
    obtain ⟨i1, i2⟩ := ih h.2
    have hb : b ≤ endOf vs bs (b + v.len) := Nat.le_trans (Nat.le_add_right _ _) i1
    refine ⟨Nat.le_trans h.1 hb, fun x hx => ?_⟩
    rcases List.mem_cons.mp hx with rfl | hx'
    · exact hb
    · exact i2 x hx'
  | case3 => exact fun h => h.elim

/-- a well-formed layout is a valid `old` for the NC_begins of any later redefinition that appends
    variables -/
theorem wf_toOld (xsz : Nat) (vars extra : List VarL) (al : Align) (old : Option Old) (L : Layout)
    (hw : LayoutWF xsz vars al old L) : OldOk (vars ++ extra) (toOld vars L) := by
  have hr : L.recBegins.length = (vars.filter (fun v => v.isRec)).length := by
    rw [hw.recs, consec_length]
  obtain ⟨t1, t2, t3⟩ := toOld_filters vars L.fixedBegins L.recBegins hw.nFixed hr
  refine ⟨?_, hw.rec4.1, ?_, ?_⟩
  · intro p hp
    have : p.2 ∈ interleave vars L.fixedBegins L.recBegins := by
      simp only [toOld] at hp
      exact (List.of_mem_zip hp).2
    rcases t3 _ this with a | a
    · exact hw.fixed4 _ a
    · exact hw.rec4.2 _ a
  · show IsPrefix ((((vars.map (·.isRec)).zip (interleave vars L.fixedBegins L.recBegins)).filter (fun p => p.1)).map (·.2)) _
    rw [t2, hw.recs, List.filter_append]
    exact ⟨_, consec_append_take _ _ _⟩
  · show L.beginVar ≤ L.beginRec
    rw [hw.extent]
    obtain ⟨bv0, _, _, hc, he⟩ := hw.fixedOk
    cases hfb : L.fixedBegins with
    | nil => exact Nat.le_refl _
    | cons b bs =>
      have := (chainOk_le_endOf _ _ _ hc).2 b (hfb ▸ List.mem_cons_self)
      exact Nat.le_trans this (Nat.le_trans (Nat.le_add_right _ _) he)

/-- one define phase of a history: the header size at its enddef, the variables it appends, the
    hints in force and the ncmpi__enddef arguments -/
structure Phase where
  xsz   : Nat
  extra : List VarL
  envH  : Nat
  envV  : Nat
  envR  : Nat
  hMin  : Nat
  argV  : Nat
  vMin  : Nat
  argR  : Nat

/-- what one enddef saw and produced -/
structure Step where
  xsz  : Nat
  vars : List VarL
  al   : Align
  old  : Option Old
  L    : Layout

/-- create, then any number of (define …, enddef, data mode, redef) rounds: the successive calls of
    NC_begins with the state the C carries from one to the next (variables only ever appended,
    ncp->begin_rec kept, ncp->old = the previous header, num_rec_vars = the previous count) -/
def runHistory (fmt : Fmt) : List VarL → Nat → Option Old → List Phase → Except Err (List Step)
  | _, _, _, [] => .ok []
  | vars, br0, old, p :: ps =>
    let vars' := vars ++ p.extra
    let staleRec := (vars.filter (fun v => v.isRec)).length
    let al := resolveAlign p.envH p.envV p.envR p.hMin p.argV p.vMin p.argR (vars'.length - staleRec) old.isSome
    match ncBegins fmt p.xsz vars' al br0 old with
    | .error e => .error e
    | .ok L =>
      match runHistory fmt vars' L.beginRec (some (toOld vars' L)) ps with
      | .error e => .error e
      | .ok rest => .ok ({ xsz := p.xsz, vars := vars', al := al, old := old, L := L } :: rest)

/-- the hypothesis of `ncBegins_wf` about `old`, for the NC_begins that follows a well-formed layout -/
theorem hold_toOld {xsz : Nat} {vars : List VarL} {al : Align} {old : Option Old} {L : Layout}
    (hw : LayoutWF xsz vars al old L) (extra : List VarL) :
    ∀ o, some (toOld vars L) = some o → OldOk (vars ++ extra) o ∧ L.beginRec = o.beginRec :=
  fun _ ho => Option.some.inj ho ▸ ⟨wf_toOld xsz vars extra al old L hw, rfl⟩

theorem runHistory_cons {fmt : Fmt} {vars : List VarL} {br0 : Nat} {old : Option Old} {p : Phase} {ps : List Phase}
    {steps : List Step} (h : runHistory fmt vars br0 old (p :: ps) = .ok steps) :
    ∃ L rest, ncBegins fmt p.xsz (vars ++ p.extra) (resolveAlign p.envH p.envV p.envR p.hMin p.argV p.vMin p.argR
        ((vars ++ p.extra).length - (vars.filter fun v => v.isRec).length) old.isSome) br0 old = .ok L ∧
      runHistory fmt (vars ++ p.extra) L.beginRec (some (toOld (vars ++ p.extra) L)) ps = .ok rest ∧
      steps = { xsz := p.xsz, vars := vars ++ p.extra, old := old, L := L,
                al := (resolveAlign p.envH p.envV p.envR p.hMin p.argV p.vMin p.argR
                  ((vars ++ p.extra).length - (vars.filter fun v => v.isRec).length) old.isSome) } :: rest := by
  simp only [runHistory] at h
  split at h
  · contradiction
  · rename_i L hL
    split at h
    · contradiction
    · rename_i rest hrest
      exact ⟨L, rest, hL, hrest, (Except.ok.inj h).symm⟩

/-- every layout of every history (create, then redefinitions that append variables) satisfies `LayoutWF` -/
theorem runHistory_wf (fmt : Fmt) : ∀ (ps : List Phase) (vars : List VarL) (br0 : Nat) (old : Option Old) (steps : List Step),
    (∀ v ∈ vars, v.len % 4 = 0 ∧ 0 < v.len) → (∀ p ∈ ps, ∀ v ∈ p.extra, v.len % 4 = 0 ∧ 0 < v.len) →
    (∀ extra o, old = some o → OldOk (vars ++ extra) o ∧ br0 = o.beginRec) →
    runHistory fmt vars br0 old ps = .ok steps → ∀ s ∈ steps, LayoutWF s.xsz s.vars s.al s.old s.L := by
  intro ps
  induction ps with
  | nil =>
    intro vars br0 old steps _ _ _ h
    cases h
    exact fun s hs => nomatch hs
  | cons p ps ih =>
    intro vars br0 old steps hv hp hold h
    obtain ⟨L, rest, hL, hrest, rfl⟩ := runHistory_cons h
    have hv' : ∀ v ∈ vars ++ p.extra, v.len % 4 = 0 ∧ 0 < v.len := fun v hm =>
      (List.mem_append.mp hm).elim (hv v) (hp p List.mem_cons_self v)
    have hwf := ncBegins_wf fmt p.xsz (vars ++ p.extra) _ br0 old L (resolveAlign_ok _ _ _ _ _ _ _ _ _) hv'
      (hold p.extra) hL
    intro s hs
    rcases List.mem_cons.mp hs with rfl | hs'
    · exact hwf
    · exact ih (vars ++ p.extra) L.beginRec _ rest hv' (fun q hq => hp q (List.mem_cons_of_mem _ hq))
        (fun extra => hold_toOld hwf extra) hrest s hs'

end PnVerif.Layout
