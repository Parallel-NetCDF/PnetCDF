import PnVerif.Lemmas.Encode
/-
  The post-pass of ncmpio_hdr_get_NC (compute_var_shape) against the specification's size rules.
-/
namespace PnVerif.Layout
open PnVerif.Spec PnVerif.Header

/-- the shape loop of ncmpio_NC_var_shape64 only lets a zero (the record dimension) through at index 0 -/
theorem shapeOf_nonzero (dims : List Dim) : ∀ (ids : List Nat) (i : Nat) (sh : List Nat),
    shapeOf dims ids i = .ok sh → (i ≠ 0 → ∀ s ∈ sh, s ≠ 0) ∧ (∀ s ∈ sh.drop 1, s ≠ 0) := by
  intro ids
  induction ids with
  | nil =>
    intro i sh h
    simp only [shapeOf, Except.ok.injEq] at h
    subst h
    exact ⟨(fun _ s hs => by cases hs), (fun s hs => by cases hs)⟩
  | cons id ids ih =>
    intro i sh h
    simp only [shapeOf] at h
    split at h
    · contradiction
    · rename_i d hd
      split at h
      · contradiction
      · rename_i hz
        split at h
        · rename_i sh' hsh
          simp only [Except.ok.injEq] at h
          subst h
          obtain ⟨i1, _⟩ := ih (i + 1) sh' hsh
          have hall := i1 (by omega)
          refine ⟨?_, ?_⟩
          · intro hi s hs
            rcases List.mem_cons.mp hs with rfl | hs'
            · intro h0; exact hz ⟨h0, hi⟩
            · exact hall s hs'
          · intro s hs
            simp only [List.drop_succ_cons, List.drop_zero] at hs
            exact hall s hs
        · contradiction

end PnVerif.Layout

namespace PnVerif.Header
open PnVerif.Spec PnVerif.Layout

/-- a shape entry as a factor of the product: 0 (the record dimension) counts as 1 -/
def nz (s : Nat) : Nat := if s ≠ 0 then s else 1

theorem map_nz (l : List Nat) (h : ∀ s ∈ l, s ≠ 0) : l.map nz = l := by
  induction l with
  | nil => rfl
  | cons a t ih => rw [List.map_cons, ih fun s hs => h s (by simp [hs]), nz, if_pos (h a (by simp))]

theorem prodR_eq_of_nonzero (l : List Nat) (h : ∀ s ∈ l, s ≠ 0) : prodR l = l.foldr (· * ·) 1 := by
  induction l with
  | nil => rfl
  | cons a t ih =>
    have iht := ih fun s hs => h s (by simp [hs])
    cases t with
    | nil => simp [prodR]
    | cons b t' => simp only [prodR, iht, if_pos (h a (by simp)), List.foldr_cons]

theorem shapeProduct_eq (sh : List Nat) (h : ∀ s ∈ sh.drop 1, s ≠ 0) :
    shapeProduct sh = (sh.map nz).foldr (· * ·) 1 := by
  match sh, h with
  | [], _ => rfl
  | [s0], _ => simp [shapeProduct, nz]
  | a :: b :: t, h => simp only [shapeProduct, prodR, prodR_eq_of_nonzero (b :: t) h, List.map_cons, map_nz (b :: t) h, nz,
      List.foldr_cons]

/-- the dimension length a variable's dimid stands for -/
def dimSize (dims : List Dim) (id : Nat) : Nat := (dims[id]?.map (·.size)).getD 0

/-- the shape the model computes, for a variable whose references are valid -/
def shapeS (d : Schema) (v : Var) : List Nat := v.dimids.map (dimSize d.dims)

theorem shapeOf_eq {dims : List Dim} {ids : List Nat} {i : Nat} {sh : List Nat}
    (h : shapeOf dims ids i = .ok sh) : sh = ids.map (dimSize dims) := by
  induction ids generalizing i sh with
  | nil => cases h; rfl
  | cons id ids ih =>
    simp only [shapeOf] at h
    split at h
    · contradiction
    · rename_i d hd
      split at h
      · contradiction
      · split at h
        · cases h
          rw [List.map_cons, ← ih ‹_›, dimSize, hd]; rfl
        · contradiction

theorem nelems_eq (d : Schema) (v : Var) : d.nelems v = ((shapeS d v).map nz).foldr (· * ·) 1 := by
  have : ∀ id, d.dimFactor id = nz (dimSize d.dims id) := by
    intro id
    unfold Schema.dimFactor dimSize nz
    cases d.dims[id]? <;> simp
  rw [Schema.nelems, shapeS, List.map_map, funext this]; rfl

/-- what an accepted ncmpio_NC_var_shape64 computed -/
theorem varShape64_inv {dims : List Dim} {v : Var} {shape : List Nat} {len : Nat}
    (h : varShape64 dims v = .ok (shape, len)) :
    shapeOf dims v.dimids 0 = .ok shape ∧ len = Spec.rndup4 (shapeProduct shape * v.xtype.size) := by
  unfold varShape64 at h
  split at h
  · contradiction
  · rename_i sh hsh
    split at h
    · contradiction
    · cases h
      refine ⟨hsh, ?_⟩
      unfold Spec.rndup4
      split <;> omega

/-- whenever ncmpio_NC_var_shape64 accepts a variable, the length it computes is the one the format
    prescribes: product of the dimension lengths (record dimension = 1) × element size, padded to 4 -/
theorem varShape64_spec (d : Schema) (v : Var) (shape : List Nat) (len : Nat)
    (h : varShape64 d.dims v = .ok (shape, len)) : len = d.varLen v := by
  obtain ⟨hsh, rfl⟩ := varShape64_inv h
  rw [shapeProduct_eq shape (shapeOf_nonzero d.dims _ _ _ hsh).2, shapeOf_eq hsh, ← shapeS, ← nelems_eq]
  rfl

theorem dsizes0_eq (shape : List Nat) : dsizes0 shape = shapeProduct shape := by
  cases shape with
  | nil => rfl
  | cons a t => cases t <;> rfl

/-- `len` of ncmpio_NC_var_shape64 is the unpadded size rounded up: the unpadded size of one record
    (`dsizes[0] * xsz`) never exceeds it -/
theorem varShape64_packed (dims : List Dim) (v : Var) (shape : List Nat) (len : Nat)
    (h : varShape64 dims v = .ok (shape, len)) : dsizes0 shape * v.xtype.size ≤ len := by
  obtain ⟨_, rfl⟩ := varShape64_inv h
  rw [dsizes0_eq, Spec.rndup4]
  omega

theorem size_pos (t : NcType) : 0 < t.size := by cases t <;> simp [NcType.size]

theorem nelems_pos (d : Schema) (v : Var) : 0 < d.nelems v := by
  unfold Schema.nelems
  induction v.dimids with
  | nil => exact Nat.one_pos
  | cons id ids ih =>
    refine Nat.mul_pos ?_ ih
    unfold Schema.dimFactor
    split
    · split <;> omega
    · exact Nat.one_pos

/-- the variable lengths NC_begins works with (computed by ncmpio_NC_var_shape64) are positive
    multiples of 4 -/
theorem varShape64_len (d : Schema) (v : Var) (shape : List Nat) (len : Nat)
    (h : varShape64 d.dims v = .ok (shape, len)) : len % 4 = 0 ∧ 0 < len := by
  have := Nat.mul_pos (nelems_pos d v) (size_pos v.xtype)
  rw [varShape64_spec d v shape len h, Schema.varLen, Spec.rndup4]
  omega

/-- inversion of the post-pass: compute_var_shape succeeded, and ncmpio_NC_check_vlens and
    ncmpio_NC_check_voffs passed on the shapes, lengths and begins it computed -/
theorem postPass_inv {d : Schema} {info : Info} (h : postPass d = .ok info) :
    computeVarShape d (Hdr.len d) = .ok (info.beginVar, info.beginRec, info.recsize, info.shapes, info.lens) ∧
    info.xsz = Hdr.len d ∧
    checkVlens d.fmt.version ((d.vars.map (fun v => v.xtype.size)).zip info.shapes) = .ok () ∧
    checkVoffs info.beginVar info.beginRec info.numRecVars
      ((info.shapes.map isRecShape).zip ((d.vars.map (fun v => v.begin)).zip info.lens)) = .ok () := by
  unfold postPass at h
  simp only [] at h
  split at h
  · contradiction
  · rename_i hcvs
    split at h
    · contradiction
    · rename_i hvl
      split at h
      · contradiction
      · rename_i hvo
        cases h; exact ⟨hcvs, rfl, hvl, hvo⟩

/-- compute_var_shape either had no variable to look at or ran its loop and its final tests -/
theorem computeVarShape_inv {d : Schema} {xsz : Nat} {r : Nat × Nat × Nat × List (List Nat) × List Nat}
    (h : computeVarShape d xsz = .ok r) :
    (d.vars = [] ∧ r = (0, 0, 0, [], [])) ∨
    ∃ st, cvsLoop d.dims d.vars ⟨xsz, 0, none, none, [], []⟩ = .ok st ∧ cvsFinish xsz st = .ok r := by
  unfold computeVarShape at h
  split at h
  · cases h; exact .inl ⟨List.eq_nil_of_length_eq_zero ‹_›, rfl⟩
  · split at h
    · contradiction
    · exact .inr ⟨_, ‹_›, h⟩

theorem cvsFinish_inv {xsz : Nat} {st : CvsState} {a b c : Nat} {shapes : List (List Nat)} {lens : List Nat}
    (h : cvsFinish xsz st = .ok (a, b, c, shapes, lens)) : shapes = st.shapes ∧ lens = st.lens ∧ xsz ≤ a := by
  unfold cvsFinish at h
  split at h
  · contradiction
  · simp only [] at h
    split at h
    · contradiction
    · cases h; exact ⟨rfl, rfl, by omega⟩

theorem cvsLoop_lens (d : Schema) {vs : List Var} {st st' : CvsState}
    (h : cvsLoop d.dims vs st = .ok st') : st'.lens = st.lens ++ vs.map d.varLen := by
  induction vs generalizing st with
  | nil => cases h; simp
  | cons v vs ih =>
    simp only [cvsLoop] at h
    split at h
    · contradiction
    · rename_i shape len hsl
      cases varShape64_spec d v shape len hsl
      split at h <;> simp [ih h]

/-- Whenever ncmpio_hdr_get_NC accepts a header, the variable lengths it works with from then on
    (every data offset of every later read is computed from them) are exactly the ones the format
    specification prescribes, whatever the vsize fields of the file say, and the header size it
    reports is the size of the encoded header. -/
theorem postPass_lens (d : Schema) (info : Info) (h : postPass d = .ok info) :
    info.lens = d.vars.map d.varLen ∧ info.xsz = Hdr.len d := by
  obtain ⟨hcvs, hx, -, -⟩ := postPass_inv h
  refine ⟨?_, hx⟩
  obtain ⟨h0, hr⟩ | ⟨st, hst, hfin⟩ := computeVarShape_inv hcvs
  · simp only [Prod.mk.injEq] at hr
    rw [h0, hr.2.2.2.2]; rfl
  · rw [(cvsFinish_inv hfin).2.1, cvsLoop_lens d hst]; rfl

theorem postPass_extent (d : Schema) (info : Info) (h : postPass d = .ok info) (hv : d.vars ≠ []) :
    info.xsz ≤ info.beginVar := by
  obtain ⟨hcvs, hx, -, -⟩ := postPass_inv h
  obtain ⟨h0, _⟩ | ⟨st, _, hfin⟩ := computeVarShape_inv hcvs
  · exact absurd h0 hv
  · rw [hx]; exact (cvsFinish_inv hfin).2.2

theorem decodeWhole_ok {file : Bytes} {h : Hdr} {info : Info} (hd : decodeWhole file = .ok (h, info)) :
    ∃ f s', checkMagic (ztake 12 file) = .ok f ∧ run flatR (getBody f) (file.drop 4) = .ok (h, s') ∧
      postPass h = .ok info := by
  unfold decodeWhole at hd
  split at hd
  · contradiction
  · rename_i f hf
    split at hd
    · contradiction
    · rename_i h' s' hr
      split at hd
      · contradiction
      · rename_i hp
        cases hd
        exact ⟨f, s', hf, hr, hp⟩

theorem decodeWhole_post (file : Bytes) (h : Hdr) (info : Info) (hd : decodeWhole file = .ok (h, info)) :
    postPass h = .ok info :=
  let ⟨_, _, _, _, hp⟩ := decodeWhole_ok hd
  hp

end PnVerif.Header
