import PnVerif.Lemmas.HeaderLemmas
/-
  The read window of ncmpio_header_get.c refines the flat, zero-extended byte stream:
  `Inv file chunk w s` says that window `w` presents the stream `s` (the unread rest of the file).
-/
namespace PnVerif.Header
open PnVerif.Spec

theorem zeros_add (a b : Nat) : zeros (a + b) = zeros a ++ zeros b := by
  simp [zeros, List.replicate_append_replicate]

theorem ztake_nil (n : Nat) : ztake n [] = zeros n := by simp [ztake]

theorem ztake_of_le {n : Nat} {s : Bytes} (h : n ≤ s.length) : ztake n s = s.take n := by
  simp [ztake, zeros, Nat.sub_eq_zero_of_le h]

theorem ztake_of_ge {n : Nat} {s : Bytes} (h : s.length ≤ n) : ztake n s = s ++ zeros (n - s.length) := by
  simp [ztake, List.take_of_length_le h]

theorem ztake_add (a b : Nat) (s : Bytes) : ztake (a + b) s = ztake a s ++ ztake b (s.drop a) := by
  by_cases h : a ≤ s.length
  · rw [ztake_of_le h]
    unfold ztake
    rw [List.take_add, List.length_drop]
    have : a + b - s.length = b - (s.length - a) := by omega
    rw [this, List.append_assoc]
  · have h' : s.length ≤ a := by omega
    rw [ztake_of_ge h', List.drop_of_length_le h', ztake_nil, ztake_of_ge (by omega : s.length ≤ a + b)]
    rw [List.append_assoc, ← zeros_add]
    congr 2; omega

theorem take_ztake {k n : Nat} (h : k ≤ n) (s : Bytes) : (ztake n s).take k = ztake k s := by
  obtain ⟨d, rfl⟩ := Nat.exists_eq_add_of_le h
  rw [ztake_add, List.take_append_of_le_length (by simp)]
  simp [List.take_of_length_le]

theorem drop_ztake {k n : Nat} (h : k ≤ n) (s : Bytes) : (ztake n s).drop k = ztake (n - k) (s.drop k) := by
  obtain ⟨d, rfl⟩ := Nat.exists_eq_add_of_le h
  rw [ztake_add]
  have : (ztake k s).length = k := ztake_length k s
  rw [List.drop_append_of_le_length (by omega), List.drop_of_length_le (by omega)]
  simp

/-- window `w` presents the stream `s`: the unread part of the buffer holds the first
    `chunk - pos` bytes of `s` (zero-extended) and the file from `off` on holds the rest -/
structure Inv (file : Bytes) (chunk : Nat) (w : Win) (s : Bytes) : Prop where
  len  : w.buf.length = chunk
  pos  : w.pos ≤ chunk
  buf  : w.buf.drop w.pos = ztake (chunk - w.pos) s
  rest : file.drop w.off = s.drop (chunk - w.pos)

/-- hdr_fetch keeps the stream (needs `pos > 0`: with pos = base the C treats the buffer as empty) -/
theorem fetch_inv {file : Bytes} {chunk : Nat} {w : Win} {s : Bytes}
    (h : Inv file chunk w s) (hp : 0 < w.pos) :
    Inv file chunk (fetch file chunk w) s ∧ (fetch file chunk w).pos = 0 := by
  obtain ⟨hl, hpos, hb, hr⟩ := h
  have hne : ¬ (chunk - w.pos = chunk) := by omega
  refine ⟨⟨?_, ?_, ?_, ?_⟩, ?_⟩
  · simp only [fetch, hne, if_false, List.length_append, List.length_take, List.length_drop, ztake_length]
    omega
  · simp [fetch]
  · simp only [fetch, hne, if_false, List.drop_zero, Nat.sub_zero]
    rw [hb, hr, List.take_of_length_le (by simp)]
    have : chunk = (chunk - w.pos) + (chunk - (chunk - w.pos)) := by omega
    conv => rhs; rw [this]
    rw [ztake_add]
  · simp only [fetch, hne, if_false, Nat.sub_zero]
    rw [← List.drop_drop, hr, List.drop_drop]
    congr 1; omega
  · simp [fetch]

/-- the very first hdr_fetch of ncmpio_hdr_get_NC (buffer empty, offset 0) -/
theorem fetch_init (file : Bytes) (chunk : Nat) (buf0 : Bytes) :
    Inv file chunk (fetch file chunk { buf := buf0, pos := 0, off := 0 }) file := by
  refine ⟨?_, ?_, ?_, ?_⟩ <;> simp [fetch]

theorem fetch_init_eq (file : Bytes) (chunk : Nat) (buf0 : Bytes) :
    fetch file chunk { buf := buf0, pos := 0, off := 0 } = { buf := ztake chunk file, pos := 0, off := chunk } := by
  simp [fetch]

theorem advance_inv {file : Bytes} {chunk : Nat} {w : Win} {s : Bytes} {k : Nat}
    (h : Inv file chunk w s) (hk : w.pos + k ≤ chunk) :
    (w.buf.drop w.pos).take k = ztake k s ∧ Inv file chunk { w with pos := w.pos + k } (s.drop k) := by
  obtain ⟨hl, hpos, hb, hr⟩ := h
  refine ⟨?_, ⟨hl, hk, ?_, ?_⟩⟩
  · rw [hb, take_ztake (by omega)]
  · show w.buf.drop (w.pos + k) = _
    rw [← List.drop_drop, hb, drop_ztake (by omega)]
    dsimp only
    congr 1; omega
  · show file.drop w.off = _
    rw [hr, List.drop_drop]
    dsimp only
    congr 1; omega

theorem getFixedW_spec {file : Bytes} {chunk : Nat} {w : Win} {s : Bytes} {k : Nat}
    (h : Inv file chunk w s) (hk : k ≤ chunk) :
    (getFixedW file chunk k w).1 = ztake k s ∧ Inv file chunk (getFixedW file chunk k w).2 (s.drop k) := by
  simp only [getFixedW]
  split
  · obtain ⟨hi, hz⟩ := fetch_inv h (by omega)
    exact advance_inv hi (by omega)
  · exact advance_inv h (by omega)

theorem padW_spec {file : Bytes} {chunk : Nat} {w : Win} {s : Bytes} {k : Nat}
    (h : Inv file chunk w s) (hk : k ≤ chunk) :
    Inv file chunk (padW file chunk k w) (s.drop k) :=
  (getFixedW_spec h hk).2

theorem fetch_off (file : Bytes) (chunk : Nat) (w : Win) (hp : w.pos ≤ chunk) (h0 : 0 < w.pos) :
    (fetch file chunk w).off = w.off + w.pos := by
  have hne : ¬ (chunk - w.pos = chunk) := by omega
  simp only [fetch, hne, if_false]
  omega

/-- every primitive read starts with `if c then hdr_fetch`, under a condition `c` that implies that
    part of the buffer has been consumed -/
theorem refill {file : Bytes} {chunk : Nat} {w : Win} {s : Bytes} {c : Prop} [Decidable c]
    (h : Inv file chunk w s) (hc : c → 0 < w.pos) :
    ∃ w1, (if c then fetch file chunk w else w) = w1 ∧ Inv file chunk w1 s ∧
      w1.off + w1.pos = w.off + w.pos ∧ (c → w1.pos = 0) ∧ (¬ c → w1 = w) := by
  by_cases hcc : c
  · refine ⟨_, if_pos hcc, (fetch_inv h (hc hcc)).1, ?_, fun _ => rfl, fun hn => absurd hcc hn⟩
    rw [fetch_off file chunk w h.pos (hc hcc)]
    rfl
  · exact ⟨w, if_neg hcc, h, rfl, fun hp => absurd hp hcc, fun _ => rfl⟩

/-- Induction along the copy loop of hdr_get_NC_name / hdr_get_NC_attrV from a state that presents
    the stream `s`.  One iteration refills an exhausted buffer (state `w1`, in which the buffer position
    has wrapped round to 0) and copies `min (chunk - w1.pos) n` bytes, which is never nothing. -/
theorem copyLoop_induction {file : Bytes} {chunk : Nat} (hc : 0 < chunk) {motive : Nat → Win → Bytes → Prop}
    (zero : ∀ w s, Inv file chunk w s → motive 0 w s)
    (step : ∀ n w w1 s, n ≠ 0 → Inv file chunk w s →
      (if chunk - w.pos = 0 then fetch file chunk w else w) = w1 → Inv file chunk w1 s →
      w1.pos = w.pos % chunk → w1.off + w1.pos = w.off + w.pos → ¬ min (chunk - w1.pos) n = 0 →
      motive (n - min (chunk - w1.pos) n) { w1 with pos := w1.pos + min (chunk - w1.pos) n }
        (s.drop (min (chunk - w1.pos) n)) → motive n w s)
    (n : Nat) : ∀ (w : Win) (s : Bytes), Inv file chunk w s → motive n w s := by
  induction n using Nat.strongRecOn with
  | _ n ih =>
    intro w s h
    by_cases hn : n = 0
    · exact hn ▸ zero w s h
    · obtain ⟨w1, hw1, hi1, hnum, hz, he⟩ := refill (c := chunk - w.pos = 0) h
        fun he => Nat.lt_of_lt_of_le hc (Nat.le_of_sub_eq_zero he)
      have hmod : w1.pos = w.pos % chunk := by
        by_cases hcc : chunk - w.pos = 0
        · rw [hz hcc, Nat.le_antisymm h.pos (Nat.le_of_sub_eq_zero hcc), Nat.mod_self]
        · rw [he hcc, Nat.mod_eq_of_lt (Nat.lt_of_sub_ne_zero hcc)]
      have hr : w1.pos < chunk := hmod ▸ Nat.mod_lt _ hc
      have hk : ¬ min (chunk - w1.pos) n = 0 :=
        Nat.ne_of_gt (Nat.lt_min.mpr ⟨Nat.sub_pos_of_lt hr, Nat.pos_of_ne_zero hn⟩)
      exact step n w w1 s hn h hw1 hi1 hmod hnum hk
        (ih _ (Nat.sub_lt (Nat.pos_of_ne_zero hn) (Nat.pos_of_ne_zero hk)) _ _
          (advance_inv hi1 (Nat.add_le_of_le_sub' (Nat.le_of_lt hr) (Nat.min_le_left _ n))).2)

theorem getBytesW_spec {file : Bytes} {chunk : Nat} (hc : 0 < chunk) (n : Nat) (w : Win) (s acc : Bytes)
    (h : Inv file chunk w s) :
    (getBytesW file chunk n w acc).1 = acc ++ ztake n s ∧
      Inv file chunk (getBytesW file chunk n w acc).2 (s.drop n) := by
  refine copyLoop_induction hc (motive := fun n w s => ∀ acc,
    (getBytesW file chunk n w acc).1 = acc ++ ztake n s ∧
      Inv file chunk (getBytesW file chunk n w acc).2 (s.drop n)) ?_ ?_ n w s h acc
  · intro w s h acc
    rw [getBytesW, dif_pos rfl]
    exact ⟨by simp [ztake, zeros], h⟩
  · intro n w w1 s hn _ hw1 hi1 hmod _ hk ih acc
    have hr := hmod ▸ Nat.mod_lt w.pos hc
    rw [getBytesW]
    simp only [hn, dite_false, hw1, hk]
    obtain ⟨h1, h2⟩ := ih (acc ++ (w1.buf.drop w1.pos).take (min (chunk - w1.pos) n))
    refine ⟨?_, ?_⟩
    · rw [h1, (advance_inv hi1 (by omega)).1, List.append_assoc, ← ztake_add]
      congr 2; omega
    · rw [List.drop_drop] at h2
      rwa [show min (chunk - w1.pos) n + (n - min (chunk - w1.pos) n) = n by omega] at h2

theorem getBytesW_nil {file : Bytes} {chunk : Nat} (hc : 0 < chunk) (n : Nat) {w : Win} {s : Bytes}
    (h : Inv file chunk w s) :
    (getBytesW file chunk n w []).1 = ztake n s ∧ Inv file chunk (getBytesW file chunk n w []).2 (s.drop n) :=
  getBytesW_spec hc n w s [] h

/-- the two interpretations of a reader program agree: same value or same error, and the window
    still presents the flat stream afterwards -/
def SimRes (file : Bytes) (chunk : Nat) {α : Type}
    (x : Except Err (α × Win)) (y : Except Err (α × Bytes)) : Prop :=
  match x, y with
  | .ok (a, w), .ok (b, s) => a = b ∧ Inv file chunk w s
  | .error e, .error f => e = f
  | _, _ => False

theorem SimRes.elim {file : Bytes} {chunk : Nat} {α : Type} {x : Except Err (α × Win)} {y : Except Err (α × Bytes)}
    (h : SimRes file chunk x y) :
    (∃ e, x = .error e ∧ y = .error e) ∨ ∃ a w s, x = .ok (a, w) ∧ y = .ok (a, s) ∧ Inv file chunk w s := by
  match x, y, h with
  | .ok (a, w), .ok (_, s), ⟨rfl, hi⟩ => exact .inr ⟨a, w, s, rfl, rfl, hi⟩
  | .error e, .error _, rfl => exact .inl ⟨e, rfl, rfl⟩

/-- Refinement of the whole reader: for EVERY reader program (in particular the header decoder
    `getBody`), every chunk size ≥ 8, every file and every reachable window state, running the
    program through the read window gives exactly what running it on the flat byte stream gives. -/
theorem run_sim {file : Bytes} {chunk : Nat} (hc : 8 ≤ chunk) {α : Type} (p : P α) :
    ∀ (w : Win) (s : Bytes), Inv file chunk w s →
      SimRes file chunk (run (winR file chunk) p w) (run flatR p s) := by
  induction p with
  | ret a => intro w s h; exact ⟨rfl, h⟩
  | fail e => intro w s h; rfl
  | u32 k ih =>
    intro w s h
    obtain ⟨hv, hi⟩ := getFixedW_spec (k := 4) h (by omega)
    simp only [run, winR, flatR]
    rw [hv]
    exact ih _ _ _ hi
  | u64 k ih =>
    intro w s h
    obtain ⟨hv, hi⟩ := getFixedW_spec (k := 8) h (by omega)
    simp only [run, winR, flatR]
    rw [hv]
    exact ih _ _ _ hi
  | bytes n k ih =>
    intro w s h
    obtain ⟨hv, hi⟩ := getBytesW_nil (by omega : 0 < chunk) n h
    simp only [run, winR, flatR]
    rw [hv]
    exact ih _ _ _ hi
  | pad q k ih =>
    intro w s h
    have hi := padW_spec (k := q.val) h (by have := q.isLt; omega)
    simp only [run, winR, flatR]
    exact ih _ _ hi

theorem chunkOf_ge (c : Nat) : 36 ≤ chunkOf c := by
  unfold chunkOf rndup MIN_NC_XSZ; omega

theorem take12_ztake (c : Nat) (file : Bytes) : (ztake (chunkOf c) file).take 12 = ztake 12 file :=
  take_ztake (Nat.le_trans (by decide) (chunkOf_ge c)) file

theorem inv_body (c : Nat) (file : Bytes) :
    Inv file (chunkOf c) { buf := ztake (chunkOf c) file, pos := 4, off := chunkOf c } (file.drop 4) := by
  have h0 := fetch_init file (chunkOf c) (zeros (chunkOf c))
  rw [fetch_init_eq] at h0
  exact (advance_inv (k := 4) h0 (Nat.le_trans (show 0 + 4 ≤ 36 by decide) (chunkOf_ge c))).2

end PnVerif.Header
