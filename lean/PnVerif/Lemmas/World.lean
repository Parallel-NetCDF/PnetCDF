import PnVerif.Model.World
namespace PnVerif.World

theorem le_foldl_min_iff (l : List Int) (acc b : Int) : b ≤ l.foldl min acc ↔ b ≤ acc ∧ ∀ x ∈ l, b ≤ x := by
  induction l generalizing acc with
  | nil => simp
  | cons y ys ih => rw [List.foldl_cons, ih, Int.le_min, List.forall_mem_cons, and_assoc]

theorem le_minOf_iff (l : List Int) (b : Int) : b ≤ minOf l ↔ b ≤ 0 ∧ ∀ x ∈ l, b ≤ x := le_foldl_min_iff l 0 b

theorem minOf_le_zero (l : List Int) : minOf l ≤ 0 := ((le_minOf_iff l _).mp (Int.le_refl _)).1
theorem minOf_le_mem (l : List Int) (x : Int) (h : x ∈ l) : minOf l ≤ x := ((le_minOf_iff l _).mp (Int.le_refl _)).2 x h

/-- Allreduce(MIN) of error codes is NC_NOERR iff nobody has an error (codes are never positive) -/
theorem minOf_eq_zero_iff (l : List Int) (hneg : ∀ x ∈ l, x ≤ 0) : minOf l = 0 ↔ ∀ x ∈ l, x = 0 := by
  constructor
  · intro h x hx
    exact Int.le_antisymm (hneg x hx) (h ▸ minOf_le_mem l x hx)
  · intro h
    refine Int.le_antisymm (minOf_le_zero l) ((le_minOf_iff l 0).mpr ⟨Int.le_refl _, fun x hx => ?_⟩)
    rw [h x hx]; exact Int.le_refl _

theorem minOf_eq_of_le (l : List Int) (x : Int) (hx : x ∈ l) (h0 : x ≤ 0) (h : ∀ y ∈ l, x ≤ y) : minOf l = x :=
  Int.le_antisymm (minOf_le_mem l x hx) ((le_minOf_iff l x).mpr ⟨h0, h⟩)

theorem minOf_map_mem {α : Type} (f : α → Int) (l : List α) (a : α) (ha : a ∈ l) : minOf (l.map f) ≤ f a :=
  minOf_le_mem _ _ (List.mem_map_of_mem ha)

theorem ArgErr.code_neg (e : ArgErr) : e.code < 0 := by cases e <;> decide
theorem DrvErr.code_neg (e : DrvErr) : e.code < 0 := by cases e <;> decide

theorem dispErr_le_zero (x : RankInput) : dispErr x ≤ 0 := by
  unfold dispErr; split
  · exact Int.le_of_lt (ArgErr.code_neg _)
  · exact Int.le_refl _

theorem dispErr_eq_zero_iff (x : RankInput) : dispErr x = 0 ↔ isArgErr x = false := by
  unfold dispErr isArgErr
  split
  · have := ArgErr.code_neg ‹ArgErr›
    constructor
    · intro h; omega
    · intro h; cases h
  · simp

theorem skipsSync_of_not_argErr (rp : Repairs) (x : RankInput) : isArgErr x = false → skipsSync rp x = false := by
  unfold isArgErr skipsSync; cases x.cls <;> simp

theorem fillOwnErr_le_zero (x : RankInput) : fillOwnErr x ≤ 0 := by
  unfold fillOwnErr; split <;> decide

theorem fillCmpErr_le_zero (root x : RankInput) : fillCmpErr root x ≤ 0 := by
  unfold fillCmpErr
  split
  · exact fillOwnErr_le_zero x
  · split <;> decide

/-- a rank without an error of its own has NC_NOERR or NC_EMULTIDEFINE_FNC_ARGS after the comparison -/
theorem fillCmpErr_of_own_zero (root x : RankInput) (h : fillOwnErr x = 0) :
    fillCmpErr root x = 0 ∨ fillCmpErr root x = -269 := by
  unfold fillCmpErr
  rw [if_neg (fun hne => hne h)]
  split
  · exact Or.inr rfl
  · exact Or.inl rfl

/-- after the safe-mode Allreduce in ncmpio_fill_var_rec either every rank has an error or none has -/
theorem fillSafeErr_ne_zero_iff (mc : Bool) (root : RankInput) (world : List RankInput) (x : RankInput) (hx : x ∈ world) :
    fillSafeErr mc root world x ≠ 0 ↔ minOf (world.map (fillCmpErr root)) ≠ 0 := by
  unfold fillSafeErr
  split
  · rename_i h
    constructor
    · intro _ hm
      have h1 := minOf_map_mem (fillCmpErr root) world x hx
      have h2 := fillCmpErr_le_zero root x
      have := h.2
      omega
    · intro _; exact h.2
  · exact Iff.rfl

theorem metaCode_le_zero (x : RankInput) : metaCode x ≤ 0 := by
  unfold metaCode; omega

theorem metaCode_eq_zero_iff (x : RankInput) : metaCode x = 0 ↔ x.metaErr = 0 := by
  unfold metaCode; omega

theorem headD_of_mem {α : Type} {l : List α} {x : α} (hx : x ∈ l) (a b : α) : l.headD a = l.headD b := by
  cases l with
  | nil => cases hx
  | cons y ys => rfl

theorem completes_replicate (n : Nat) (t : Trace) : Completes (List.replicate n t) := by
  induction t with
  | nil => exact Completes.done fun s hs => (List.mem_replicate.mp hs).2
  | cons c t ih =>
    cases n with
    | zero => exact Completes.done fun s hs => nomatch hs
    | succ n =>
      have hstep := Step.fire c (List.replicate (n + 1) (c :: t)) (by simp)
        (fun s hs => by rw [(List.mem_replicate.mp hs).2]; rfl)
      rw [List.map_replicate] at hstep
      exact Completes.step hstep ih

theorem Step.tails {w w' : Pending} (hs : Step w w') : ∃ c, ∀ a ∈ w, ∃ t, a = c :: t ∧ t ∈ w' := by
  cases hs with
  | fire c _ _ hh =>
    refine ⟨c, fun a ha => ?_⟩
    have h := hh a ha
    cases a with
    | nil => cases h
    | cons c' t =>
      cases h
      exact ⟨t, rfl, List.mem_map_of_mem (f := List.tail) ha⟩

theorem all_eq_of_completes {w : Pending} (h : Completes w) : ∀ a ∈ w, ∀ b ∈ w, a = b := by
  induction h with
  | done hd =>
    intro a ha b hb
    rw [hd a ha, hd b hb]
  | step hs _ ih =>
    intro a ha b hb
    obtain ⟨c, h⟩ := hs.tails
    obtain ⟨ta, rfl, hta⟩ := h a ha
    obtain ⟨tb, rfl, htb⟩ := h b hb
    rw [ih ta hta tb htb]

theorem completes_or_stuck : ∀ (t : Trace) (w : Pending), t ∈ w → Completes w ∨ ∃ w', Reach w w' ∧ Stuck w'
  | t, w, ht => by
    by_cases hd : Done w
    · exact .inl (.done hd)
    by_cases hstep : ∃ w', Step w w'
    · obtain ⟨w', hs⟩ := hstep
      obtain ⟨c, h⟩ := hs.tails
      obtain ⟨t', rfl, ht'⟩ := h t ht
      rcases completes_or_stuck t' w' ht' with hc | ⟨w'', hr, hst⟩
      · exact .inl (.step hs hc)
      · exact .inr ⟨w'', .step hs hr, hst⟩
    · exact .inr ⟨w, .refl w, hd, hstep⟩
termination_by t => t.length

end PnVerif.World
