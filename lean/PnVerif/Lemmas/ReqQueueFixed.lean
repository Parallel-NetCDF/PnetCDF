import PnVerif.Lemmas.ReqQueueInv
namespace PnVerif.ReqQueue

/-- only the subset path can refuse a wait -/
theorem subsetPath_of_refused {nc : NC} {num : Int} {ids : List Int} {st : Option (List Int)} {V : Variant}
    (herr : (wait nc num ids st V).err ≠ NC_NOERR) : SubsetPath nc num ids st V := by
  refine Classical.not_not.mp fun hs => herr ?_
  obtain ⟨_, _, _, _, hx, -⟩ := extract_nonsubset nc ids st V hs
  rw [wait_err, hx]; rfl

/-- with the repair of F19 EVERY wait keeps the invariant, refused or not -/
theorem wait_inv_fixed (nc : NC) (h : Inv nc) (num : Int) (ids : List Int) (st : Option (List Int)) (V : Variant)
    (hV : V.clearOnRefusal = true) : Inv (wait nc num ids st V).nc := by
  by_cases herr : (wait nc num ids st V).err = NC_NOERR
  · exact wait_inv nc h num ids st V herr
  · obtain ⟨vP, vG, hP, hG⟩ := h
    have hw := wait_refused_fixed hP hG hV (subsetPath_of_refused herr) herr
    exact ⟨_, _, hw.1, hw.2.1⟩

theorem idsOf_canon (o : Nat) (v : List Entry) : idsOf (canonLeads o v) = v.map (fun e => e.c.id) := by
  have := congrArg (List.map fun c : Core => c.id) (canonLeads_core o v)
  simpa [idsOf, List.map_map, Function.comp_def] using this

/-- the status slots handed out by position: lead i gets slot i -/
theorem slotByPosition_spec (L : List Lead) : ∀ (k : Nat) (l : Lead), l ∈ flagAll (slotByPosition k L) →
    l.c.toFree = true ∧ ∃ i, l.c.status = some (k + i) ∧ (idsOf L)[i]? = some l.c.id := by
  induction L with
  | nil => intro k l hl; simp [slotByPosition, flagAll] at hl
  | cons x xs ih =>
    intro k l hl
    simp only [slotByPosition, flagAll, List.map_cons, List.mem_cons] at hl
    rcases hl with rfl | hl
    · exact ⟨rfl, 0, rfl, by simp [idsOf]⟩
    · obtain ⟨h1, i, h2, h3⟩ := ih (k + 1) l hl
      refine ⟨h1, i + 1, ?_, ?_⟩
      · rw [h2]; congr 1; omega
      · simpa [idsOf] using h3

theorem WaitExact.of_done {nc : NC} {vP vG : List Entry} (hP : QInv nc.put 0 vP) (hG : QInv nc.get 1 vG)
    {ids : List Int} {st : Option (List Int)} {r : WaitRes}
    (dP : QDone vP 0 ids st.isSome r.nc.put r.donePut) (dG : QDone vG 1 ids st.isSome r.nc.get r.doneGet)
    (hi : r.ids = nullIds ids) : WaitExact nc ids st r :=
  ⟨by rw [rep_view _ _ dP.inv.rep, rep_view _ _ hP.rep], by rw [rep_view _ _ dG.inv.rep, rep_view _ _ hG.rep], hi,
   fun l hl => (List.mem_append.mp hl).elim (dP.slot l) (dG.slot l)⟩

theorem QDone.taken (q : Q) (par : Int) {v : List Entry} {ids : List Int} (st : Option (List Int))
    (hin : ∀ e ∈ v, e.c.id ∈ ids) (hids : st.isSome = true → idsOf q.lead = ids) :
    QDone v par ids st.isSome q.clear (flagAll (posSlots st q.lead)) := by
  refine ⟨?_, fun l hl => ⟨flagAll_flagged _ l hl, fun hs => ?_⟩⟩
  · rw [List.filter_eq_nil_iff.mpr fun e he => by simp [hin e he]]
    exact QInv.empty _ _ (clear_rep q)
  · rw [posSlots, if_pos hs] at hl
    obtain ⟨-, i, hi1, hi2⟩ := slotByPosition_spec q.lead 0 l hl
    exact ⟨i, by simpa using hi1, hids hs ▸ hi2⟩

theorem QDone.untouched {q : Q} {par : Int} {v : List Entry} (h : QInv q par v) {ids : List Int} (hasSt : Bool)
    (hout : ∀ e ∈ v, e.c.id ∉ ids) : QDone v par ids hasSt q [] :=
  ⟨by rwa [List.filter_eq_self.mpr fun e he => by simp [hout e he]], by simp⟩

/-- with the repair of F4 (shortcuts only when req_ids[] is the queue's id list in queue order)
    every successful wait on an explicit id list is exact -/
theorem wait_exact_fixed (nc : NC) (h : Inv nc) (ids : List Int) (st : Option (List Int)) (V : Variant)
    (hV : V.shortcutChecksIds = true) (herr : (wait nc ids.length ids st V).err = NC_NOERR) :
    WaitExact nc ids st (wait nc ids.length ids st V) := by
  obtain ⟨vP, vG, hP, hG⟩ := h
  have hlP := lead_length_of_rep hP.rep
  have hlG := lead_length_of_rep hG.rep
  have hidP : idsOf nc.put.lead = vP.map (fun e => e.c.id) := by rw [hP.rep.lead]; exact idsOf_canon 0 vP
  have hidG : idsOf nc.get.lead = vG.map (fun e => e.c.id) := by rw [hG.rep.lead]; exact idsOf_canon 0 vG
  have hc : ¬ IsConst (ids.length : Int) := by
    unfold IsConst NC_REQ_ALL NC_GET_REQ_ALL NC_PUT_REQ_ALL; omega
  -- a queue without non-lead requests is empty
  have hnil : ∀ {q : Q} {par : Int} {v : List Entry}, QInv q par v → q.numReqs = 0 → ∀ e ∈ v, e.c.id ∉ ids :=
    fun h h0 e he => by rw [h.eq_nil_of_numReqs h0] at he; simp at he
  by_cases hs1 : sc1 V nc ids.length ids
  · obtain ⟨hi, hp, hdp, hg, hdg⟩ := wait_whole (extract_sc1 nc ids st V hc hs1)
      (fun L hL => by cases hL; exact posSlots_length _ _) (by simp) hlP hlG
    have hids : vP.map (fun e => e.c.id) = ids := hidP ▸ hs1.2.2 hV
    refine .of_done hP hG ?_ ?_ hi
    · rw [hp, hdp]
      exact .taken nc.put 0 st (fun e he => hids ▸ List.mem_map_of_mem he) (fun _ => hidP.trans hids)
    · rw [hg, hdg]
      exact .untouched hG _ (hnil hG hs1.1)
  · by_cases hs2 : sc2 V nc ids.length ids
    · obtain ⟨hi, hp, hdp, hg, hdg⟩ := wait_whole (extract_sc2 nc ids st V hc hs1 hs2)
        (by simp) (fun L hL => by cases hL; exact posSlots_length _ _) hlP hlG
      have hids : vG.map (fun e => e.c.id) = ids := hidG ▸ hs2.2.2 hV
      refine .of_done hP hG ?_ ?_ hi
      · rw [hp, hdp]
        exact .untouched hP _ (hnil hP hs2.1)
      · rw [hg, hdg]
        exact .taken nc.get 1 st (fun e he => hids ▸ List.mem_map_of_mem he) (fun _ => hidG.trans hids)
    · by_cases hs3 : sc3 V nc ids.length ids st
      · obtain ⟨hi, hp, hdp, hg, hdg⟩ := wait_whole (extract_sc3 nc ids st V hc hs1 hs2 hs3)
          (fun L hL => by cases hL; rfl) (fun L hL => by cases hL; rfl) hlP hlG
        have hids : vP.map (fun e => e.c.id) ++ vG.map (fun e => e.c.id) = ids := by
          rw [← hidP, ← hidG]; exact hs3.2.2 hV
        obtain rfl : st = none := Option.isNone_iff_eq_none.mp hs3.2.1
        refine .of_done hP hG ?_ ?_ hi
        · rw [hp, hdp]
          exact .taken nc.put 0 none (fun e he => hids ▸ List.mem_append_left _ (List.mem_map_of_mem he))
            (fun hs => absurd hs (by simp))
        · rw [hg, hdg]
          exact .taken nc.get 1 none (fun e he => hids ▸ List.mem_append_right _ (List.mem_map_of_mem he))
            (fun hs => absurd hs (by simp))
      · have hw := wait_subset hP hG ⟨hc, hs1, hs2, hs3⟩ herr
        exact .of_done hP hG hw.put hw.get hw.nulled

/-- the record count after a wait that does NOT take the subset path (the three constants, the
    three shortcuts), for every code variant -/
theorem numrecs_nonsubset (nc : NC) (h : Inv nc) (h0 : 0 ≤ nc.numrecs) (num : Int) (ids : List Int)
    (st : Option (List Int)) (V : Variant) (hns : ¬ SubsetPath nc num ids st V) :
    (wait nc num ids st V).nc.numrecs = maxRecOf nc.numrecs (wait nc num ids st V).donePut := by
  obtain ⟨vP, vG, hP, hG⟩ := h
  obtain ⟨ids', st', P, G, hx, hPl, -⟩ := extract_nonsubset nc ids st V hns
  -- the put queue is empty when it has no leads, and when it has no non-lead requests
  have hz : nc.put.numLead = 0 ∨ nc.put.numReqs = 0 → vP = [] := by
    rintro (h | h)
    · exact hP.rep.eq_nil_of_numLead h
    · exact hP.eq_nil_of_numReqs h
  cases P with
  | none => exact wait_numrecs hx rfl h0 (by simp [wholeExt]) (by simp [wholeExt]) (by simp [wholeExt])
  | some L =>
    have hL := (hPl L rfl).trans (lead_length_of_rep hP.rep)
    refine wait_numrecs hx rfl h0 (fun _ => ?_) (fun h => ?_) (fun h _ => ?_) <;>
      simp only [wholeExt, Q.handOver, Option.isSome_some, if_true] at *
    · simp [flagAll, hL]
    · rw [hP.rep.numReqs, hz (Or.inl h)]; rfl
    · have : L = [] := List.eq_nil_of_length_eq_zero (by rw [hL, hP.rep.numLead, hz (Or.inr h)]; rfl)
      subst this; rfl

end PnVerif.ReqQueue
