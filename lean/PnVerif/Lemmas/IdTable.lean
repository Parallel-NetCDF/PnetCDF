import PnVerif.Model.IdTable
/- `Consistent` (pnc_numfiles counts the non-NULL elements of pnc_filelist[]) and what
   new_id_PNCList, del_from_PNCList and PNC_check_id do to a consistent table. -/
namespace PnVerif.IdTable

variable {α : Type}

/-- number of occupied elements of pnc_filelist[] -/
def countSome : List (Option α) → Nat
  | [] => 0
  | none :: r => countSome r
  | some _ :: r => countSome r + 1

/-- the invariant of the two statics: pnc_numfiles = number of non-NULL elements -/
def Consistent (t : Tab α) : Prop := t.num = (countSome t.slots : Int)

def free (t : Tab α) : Nat := t.cap - countSome t.slots

/-- `countSome [x]` is 1 for an occupied element and 0 for NULL -/
theorem countSome_cons (x : Option α) (r : List (Option α)) : countSome (x :: r) = countSome [x] + countSome r := by
  cases x <;> simp only [countSome] <;> omega

theorem countSome_le (l : List (Option α)) : countSome l ≤ l.length := by
  induction l with
  | nil => exact Nat.le_refl 0
  | cons x r ih => cases x <;> simp only [countSome, List.length_cons] <;> omega

theorem countSome_replicate (n : Nat) : countSome (List.replicate n (none : Option α)) = 0 := by
  induction n with
  | zero => rfl
  | succ k ih => exact ih

theorem firstFree_none_iff (l : List (Option α)) : firstFree l = none ↔ countSome l = l.length := by
  induction l with
  | nil => simp [firstFree, countSome]
  | cons x r ih =>
    cases x with
    | none =>
      have := countSome_le r
      simp only [firstFree, countSome, List.length_cons, reduceCtorEq, false_iff]; omega
    | some a =>
      -- `(firstFree r).map (· + 1)` is `none` iff `firstFree r` is; both counts are one more than for `r`
      simp only [firstFree, Option.map_eq_none_iff, ih, countSome, List.length_cons, Nat.add_right_cancel_iff]

theorem firstFree_some {l : List (Option α)} {i : Nat} (h : firstFree l = some i) :
    l[i]? = some none ∧ ∀ j, j < i → ∃ q, l[j]? = some (some q) := by
  induction l generalizing i with
  | nil => cases h
  | cons x r ih =>
    cases x with
    | none => cases h; exact ⟨rfl, nofun⟩
    | some a =>
      obtain ⟨i', hi', rfl⟩ := Option.map_eq_some_iff.mp h
      obtain ⟨h1, h2⟩ := ih hi'
      refine ⟨h1, fun j hj => ?_⟩
      cases j with
      | zero => exact ⟨a, rfl⟩
      | succ j' => exact h2 j' (Nat.lt_of_succ_lt_succ hj)

theorem countSome_set {l : List (Option α)} {i : Nat} {o : Option α} (h : l[i]? = some o) (x : Option α) :
    countSome (l.set i x) + countSome [o] = countSome l + countSome [x] := by
  induction l generalizing i with
  | nil => cases h
  | cons y r ih =>
    cases i with
    | zero => cases h; rw [List.set_cons_zero, countSome_cons x, countSome_cons _ r]; omega
    | succ j => rw [List.set_cons_succ, countSome_cons y, countSome_cons y r]; have := ih h; omega

theorem countSome_zero {l : List (Option α)} (h : countSome l = 0) (i : Nat) (hi : i < l.length) :
    l[i]? = some none := by
  induction l generalizing i with
  | nil => cases hi
  | cons x r ih =>
    cases x with
    | some a => cases h
    | none =>
      cases i with
      | zero => rfl
      | succ j => exact ih h j (Nat.lt_of_succ_lt_succ hi)

theorem init_inv (N : Nat) : Consistent (init α N) :=
  congrArg Int.ofNat (countSome_replicate N).symm

theorem init_free (N : Nat) : free (init α N) = N := by
  simp only [free, init, Tab.cap, countSome_replicate, List.length_replicate, Nat.sub_zero]

/-- complete description of new_id_PNCList on a consistent table -/
theorem newId_spec {t : Tab α} (inv : Consistent t) (p : α) :
    (free t = 0 ∧ newId t p = (t, NC_ENFILE, -1)) ∨
    (∃ i : Nat, newId t p = (⟨t.slots.set i (some p), t.num + 1⟩, NC_NOERR, (i : Int)) ∧
       t.slots[i]? = some none ∧ (∀ j, j < i → ∃ q, t.slots[j]? = some (some q)) ∧ 0 < free t) := by
  unfold Consistent at inv
  have hle := countSome_le t.slots
  unfold free Tab.cap
  by_cases hfull : t.num = t.cap
  · exact Or.inl ⟨by unfold Tab.cap at hfull; omega, if_pos hfull⟩
  · have hne : countSome t.slots ≠ t.slots.length := fun e => hfull (by unfold Tab.cap; omega)
    cases hff : firstFree t.slots with
    | none => exact absurd ((firstFree_none_iff _).mp hff) hne
    | some i =>
      obtain ⟨h1, h2⟩ := firstFree_some hff
      exact Or.inr ⟨i, by simp only [newId, hfull, hff, if_false], h1, h2, by omega⟩

/-- `countSome [o]`, `countSome [x]`: what the old and the new content of the slot count for (0 or 1);
    +1 for new_id_PNCList, −1 for del_from_PNCList, 0 for a call that replaces the object -/
theorem set_inv {t : Tab α} (inv : Consistent t) {i : Nat} {o : Option α} (h : t.slots[i]? = some o)
    (x : Option α) (n : Int) (hn : n + countSome [o] = t.num + countSome [x]) : Consistent ⟨t.slots.set i x, n⟩ := by
  unfold Consistent at inv ⊢
  have := countSome_set h x
  simp only; omega

theorem newId_inv {t : Tab α} (inv : Consistent t) (p : α) : Consistent (newId t p).1 := by
  rcases newId_spec inv p with ⟨_, h⟩ | ⟨i, h, hi, _, _⟩
  · rw [h]; exact inv
  · rw [h]; exact set_inv inv hi (some p) _ (by simp only [countSome]; omega)

theorem del_inv {t : Tab α} (inv : Consistent t) {id : Nat} {q : α} (h : t.slots[id]? = some (some q)) :
    Consistent (del t id) :=
  set_inv inv h none _ (by simp only [countSome]; omega)

theorem checkId_cases (b : Bool) (t : Tab α) (ncid : Int) :
    ((t.num = 0 ∨ ncid < 0 ∨ ncid ≥ t.cap) ∧ checkId b t ncid = .badid) ∨
    (t.num ≠ 0 ∧ 0 ≤ ncid ∧ ncid < t.cap ∧ ∃ x, t.slots[ncid.toNat]? = some x ∧
      checkId b t ncid = match x with
        | some p => .ok p
        | none => if b then .badid else .null) := by
  by_cases hc : t.num = 0 ∨ ncid < 0 ∨ ncid ≥ t.cap
  · exact Or.inl ⟨hc, if_pos hc⟩
  · have hr : ncid.toNat < t.slots.length := by unfold Tab.cap at hc; omega
    refine Or.inr ⟨by omega, by omega, by omega, t.slots[ncid.toNat], List.getElem?_eq_getElem hr, ?_⟩
    rw [checkId, if_neg hc, List.getElem?_eq_getElem hr]
    cases t.slots[ncid.toNat] <;> rfl

theorem checkId_ok {b : Bool} {t : Tab α} {ncid : Int} {p : α} (h : checkId b t ncid = .ok p) :
    0 ≤ ncid ∧ ncid.toNat < t.cap ∧ t.slots[ncid.toNat]? = some (some p) := by
  rcases checkId_cases b t ncid with ⟨_, he⟩ | ⟨_, h0, h1, x, hx, he⟩
  · rw [he] at h; cases h
  · rw [he] at h
    cases x with
    | some q => cases h; exact ⟨h0, by omega, hx⟩
    | none => cases b <;> cases h

theorem step_inv (b : Bool) {t : Tab α} (inv : Consistent t) (op : Op α) : Consistent (step b t op).1 := by
  cases op with
  | create p derr =>
    have inv1 := newId_inv inv p
    rcases newId_spec inv p with ⟨_, h⟩ | ⟨i, h, hi, _, _⟩
    · rw [step, h]; exact inv
    · rw [h] at inv1
      simp only [step, h, ne_eq, not_true_eq_false, if_false]
      split
      · -- the driver failed: the id just handed out is given back
        have hlt : i < t.slots.length := (List.getElem?_eq_some_iff.mp hi).1
        exact del_inv inv1 (q := p) (by rw [Int.toNat_natCast]; exact List.getElem?_set_self hlt)
      · exact inv1
  | close ncid f =>
    simp only [step]
    cases hc : checkId b t ncid with
    | ok p => exact del_inv inv (checkId_ok hc).2.2
    | _ => exact inv
  | call ncid f =>
    simp only [step]
    cases hc : checkId b t ncid with
    | ok p => exact set_inv inv (checkId_ok hc).2.2 _ _ rfl
    | _ => exact inv

theorem run_cons (b : Bool) (t : Tab α) (op : Op α) (rest : List (Op α)) :
    run b t (op :: rest) = match (step b t op).2.1 with
      | .crash => (t, [.crash])
      | o => ((run b (step b t op).1 rest).1, o :: (run b (step b t op).1 rest).2) := by
  simp only [run]
  rcases step b t op with ⟨t', o, id⟩
  cases o <;> rfl

theorem run_inv (b : Bool) {t : Tab α} (inv : Consistent t) (ops : List (Op α)) : Consistent (run b t ops).1 := by
  induction ops generalizing t with
  | nil => exact inv
  | cons op rest ih =>
    rw [run_cons]
    split
    · exact inv
    · exact ih (step_inv b inv op)

theorem step_crash {b : Bool} {t : Tab α} {op : Op α} (h : (step b t op).2.1 = .crash) :
    ∃ ncid, ((∃ f, op = .close ncid f) ∨ (∃ f, op = .call ncid f)) ∧ checkId b t ncid = .null := by
  cases op with
  | create p derr =>
    simp only [step] at h
    split at h
    · cases h
    · split at h <;> cases h
  | close ncid f =>
    refine ⟨ncid, Or.inl ⟨f, rfl⟩, ?_⟩
    cases hc : checkId b t ncid with
    | null => rfl
    | _ => simp only [step, hc] at h; cases h
  | call ncid f =>
    refine ⟨ncid, Or.inr ⟨f, rfl⟩, ?_⟩
    cases hc : checkId b t ncid with
    | null => rfl
    | _ => simp only [step, hc] at h; cases h

theorem step_true_no_crash (t : Tab α) (op : Op α) : (step true t op).2.1 ≠ .crash := by
  intro h
  obtain ⟨ncid, _, hn⟩ := step_crash h
  rcases checkId_cases true t ncid with ⟨_, he⟩ | ⟨_, _, _, x, _, he⟩
  · rw [he] at hn; cases hn
  · rw [he] at hn; cases x <;> cases hn

theorem run_true_no_crash (t : Tab α) (ops : List (Op α)) : Outcome.crash ∉ (run true t ops).2 := by
  induction ops generalizing t with
  | nil => exact List.not_mem_nil
  | cons op rest ih =>
    rw [run_cons]
    split
    · exact absurd ‹_› (step_true_no_crash t op)
    · exact List.not_mem_cons_of_ne_of_not_mem (step_true_no_crash t op).symm (ih _)

end PnVerif.IdTable
