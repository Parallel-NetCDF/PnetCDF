import PnVerif.Model.Access
/-
  stride_flatten builds its displacements innermost dimension first, one `extend` per dimension.
  Seen from the specification (`extend_enumIdx`) such a step puts one outer dimension on the row-major
  enumeration of the inner ones, each index weighted with the byte unit of its dimension (`dot`).
-/
namespace PnVerif.Access

theorem flatMap_range_succ {α} (f : Nat → List α) (n : Nat) :
    (List.range (n + 1)).flatMap f = f 0 ++ (List.range n).flatMap (fun i => f (i + 1)) := by
  rw [List.range_succ_eq_map, List.flatMap_cons, List.flatMap_map]

theorem extend_eq (disps : List Nat) (d : Dim) :
    extend disps d = (List.range d.c).flatMap (fun i => disps.map (fun x => (d.s + i * d.k) * d.u + x)) := by
  simp only [extend, Nat.add_mul, Nat.mul_assoc, Nat.add_assoc, Nat.add_comm]

theorem extend_flatMap (c : Nat) (g : Nat → Nat) (inner : List Nat) (d : Dim) :
    extend ((List.range c).flatMap (fun i => inner.map (fun x => g i + x))) d
      = (List.range d.c).flatMap (fun j => (List.range c).flatMap (fun i => inner.map (fun x => (d.s + j * d.k) * d.u + (g i + x)))) := by
  simp only [extend_eq, List.map_flatMap, List.map_map, Function.comp_def]

theorem extend_enumIdx (s0 c0 k0 u0 : Nat) (ss cs ks us : List Nat) :
    extend ((enumIdx ss cs ks).map (dot us)) ⟨s0, c0, k0, u0⟩
      = (enumIdx (s0 :: ss) (c0 :: cs) (k0 :: ks)).map (dot (u0 :: us)) := by
  simp only [extend_eq, enumIdx, List.map_flatMap, List.map_map, Function.comp_def, dot]

theorem extend_single (s0 c0 k0 u0 : Nat) :
    extend [0] ⟨s0, c0, k0, u0⟩ = (enumIdx [s0] [c0] [k0]).map (dot [u0]) :=
  extend_enumIdx s0 c0 k0 u0 [] [] [] []

theorem prod_cons' (x : Nat) (xs : List Nat) : prod (x :: xs) = x * prod xs := rfl

theorem prod_pos (l : List Nat) (h : ∀ x ∈ l, 0 < x) : 0 < prod l := by
  induction l with
  | nil => exact Nat.one_pos
  | cons a as ih =>
    exact Nat.mul_pos (h a List.mem_cons_self) (ih (fun x hx => h x (List.mem_cons_of_mem _ hx)))

theorem dot_unitsFixed (xsz : Nat) (shape idx : List Nat) :
    dot (unitsFixed xsz shape) idx = rowMajor shape idx * xsz := by
  induction shape generalizing idx with
  | nil => simp [unitsFixed, dot, rowMajor]
  | cons n ns ih =>
    cases idx with
    | nil => simp [unitsFixed, dot, rowMajor]
    | cons i is =>
      simp only [unitsFixed, dot, rowMajor, ih]
      rw [Nat.add_mul, Nat.mul_assoc, Nat.mul_comm xsz]

theorem elemOff_fixed {v : VarLay} (h : v.isRec = false) (idx : List Nat) :
    elemOff v idx = v.begin + rowMajor v.shape idx * v.xsz := by
  simp [elemOff, h]

theorem elemOff_rec {v : VarLay} (h : v.isRec = true) (r : Nat) (is : List Nat) :
    elemOff v (r :: is) = v.begin + r * v.recsize + rowMajor (v.shape.drop 1) is * v.xsz := by
  simp [elemOff, h]

theorem elemOff_eq_dot (v : VarLay) (idx : List Nat) (h : v.isRec = true → v.shape ≠ []) :
    elemOff v idx = v.begin + dot (units v) idx := by
  unfold elemOff units
  cases hr : v.isRec with
  | false => simp [dot_unitsFixed]
  | true =>
    have hs := h hr
    cases hsh : v.shape with
    | nil => exact absurd hsh hs
    | cons n ns =>
      cases idx with
      | nil => cases ns <;> simp [dot, rowMajor]
      | cons i is => simp [dot, dot_unitsFixed, Nat.add_assoc]

theorem exists_cons_of_length_cons {x : Nat} {xs a b c : List Nat} (ha : (x :: xs).length = a.length)
    (hb : (x :: xs).length = b.length) (hc : (x :: xs).length = c.length) :
    ∃ a0 as b0 bs c0 cs, a = a0 :: as ∧ b = b0 :: bs ∧ c = c0 :: cs ∧
      xs.length = as.length ∧ xs.length = bs.length ∧ xs.length = cs.length := by
  obtain ⟨a0, as, rfl⟩ := List.exists_cons_of_length_eq_add_one ha.symm
  obtain ⟨b0, bs, rfl⟩ := List.exists_cons_of_length_eq_add_one hb.symm
  obtain ⟨c0, cs, rfl⟩ := List.exists_cons_of_length_eq_add_one hc.symm
  simp only [List.length_cons, Nat.add_right_cancel_iff] at ha hb hc
  exact ⟨a0, as, b0, bs, c0, cs, rfl, rfl, rfl, ha, hb, hc⟩

theorem eq_nil_of_length_nil {a b c : List Nat} (ha : ([] : List Nat).length = a.length)
    (hb : ([] : List Nat).length = b.length) (hc : ([] : List Nat).length = c.length) : a = [] ∧ b = [] ∧ c = [] :=
  ⟨List.length_eq_zero_iff.mp ha.symm, List.length_eq_zero_iff.mp hb.symm, List.length_eq_zero_iff.mp hc.symm⟩

theorem getLastD_cons {α} (a : α) (l : List α) (d : α) (h : l ≠ []) : (a :: l).getLastD d = l.getLastD d := by
  cases l with
  | nil => exact absurd rfl h
  | cons b l => simp [List.getLastD]

/-- The loop is let run on into any `ys`: that says at once what it has produced after `sfHigher s c k dl`
    and that `array_len` is then `a * Π dl[1..]`. -/
theorem sfLoop_sfHigher (r : Bool) (d0 a : Nat) (s c k dl : List Nat)
    (h1 : s.length = c.length) (h2 : s.length = k.length) (h3 : s.length = dl.length) (hne : s ≠ [])
    (ys : List (Nat × Nat × Nat × Nat × Bool)) :
    sfLoop r d0 (sfHigher s c k dl ++ ys) a (extend [0] ⟨s.getLastD 0, c.getLastD 0, k.getLastD 1, a⟩)
      = sfLoop r d0 ys (a * prod (dl.drop 1)) ((enumIdx s c k).map (dot (unitsFixed a dl))) := by
  induction s generalizing c k dl ys with
  | nil => exact absurd rfl hne
  | cons s0 ss ih =>
    obtain ⟨c0, cs, k0, ks, n0, ns, rfl, rfl, rfl, h1, h2, h3⟩ := exists_cons_of_length_cons h1 h2 h3
    cases ss with
    | nil =>
      obtain ⟨rfl, rfl, rfl⟩ := eq_nil_of_length_nil h1 h2 h3
      show sfLoop r d0 ys a (extend [0] ⟨s0, c0, k0, a⟩)
        = sfLoop r d0 ys (a * 1) ((enumIdx [s0] [c0] [k0]).map (dot [a * 1]))
      rw [Nat.mul_one, extend_single]
    | cons s1 ss =>
      obtain ⟨c1, cs, k1, ks, n1, ns, rfl, rfl, rfl, _⟩ := exists_cons_of_length_cons h1 h2 h3
      have hu : a * prod ns * n1 = a * prod (n1 :: ns) := by rw [prod, Nat.mul_assoc, Nat.mul_comm n1]
      simp only [sfHigher, getLastD_cons _ _ _ (List.cons_ne_nil _ _), List.append_assoc, List.singleton_append]
      rw [ih _ _ _ h1 h2 h3 (List.cons_ne_nil _ _)]
      simp only [sfLoop, List.drop_succ_cons, List.drop_zero, Bool.false_eq_true, false_and, if_false, hu]
      rw [extend_enumIdx]
      rfl

theorem markDim0_append (xs : List (Nat × Nat × Nat × Nat × Bool)) (s c k dl : Nat) (f : Bool) :
    markDim0 (xs ++ [(s, c, k, dl, f)]) = xs ++ [(s, c, k, dl, true)] := by
  induction xs with
  | nil => rfl
  | cons x rest ih =>
    cases rest with
    | nil => obtain ⟨a, b, c', d, e⟩ := x; simp [markDim0]
    | cons y rest' =>
      simp only [List.cons_append] at ih ⊢
      rw [markDim0]
      · rw [ih]
      · simp

theorem expandBlocks_extend (el seg : Nat) (disps : List Nat) (d : Dim) :
    expandBlocks el (extend disps d) seg = extend (expandBlocks el disps seg) d := by
  simp only [expandBlocks, extend, List.flatMap_assoc, List.flatMap_map, List.map_flatMap, List.map_map,
    Function.comp_def, Nat.add_assoc, Nat.add_comm, Nat.add_left_comm]

theorem expandBlocks_sfLoop (el seg : Nat) (r : Bool) (d0 : Nat) (hi : List (Nat × Nat × Nat × Nat × Bool))
    (a : Nat) (disps : List Nat) :
    expandBlocks el (sfLoop r d0 hi a disps) seg = sfLoop r d0 hi a (expandBlocks el disps seg) := by
  induction hi generalizing a disps with
  | nil => rfl
  | cons x rest ih =>
    obtain ⟨s, c, k, dl, f⟩ := x
    simp only [sfLoop, ih, expandBlocks_extend]

/-- the lowest dimension: block displacements + common block length describe exactly the elements
    `extend [0] ⟨sL, cL, kL, uL⟩`.  For stride 1 the C code emits ONE block of cL elements, which is
    right only if consecutive elements are `el` bytes apart (uL = el) or there is at most one. -/
theorem base_expand (el uL sL cL kL : Nat) (hel : 0 < el) (h : kL = 1 → uL = el ∨ cL ≤ 1) :
    expandBlocks el ((List.range (if kL = 1 then 1 else cL)).map (fun j => 0 + sL * uL + j * (kL * uL)))
        ((if kL = 1 then cL else 1) * el)
      = extend [0] ⟨sL, cL, kL, uL⟩ := by
  by_cases hk : kL = 1
  · subst hk
    rcases h rfl with rfl | hc
    · simp [expandBlocks, extend, Nat.mul_div_cancel _ hel, ← List.map_eq_flatMap]
    · have : cL = 0 ∨ cL = 1 := by omega
      rcases this with rfl | rfl <;> simp [expandBlocks, extend, hel]
  · simp [expandBlocks, extend, hk, Nat.div_self hel, ← List.map_eq_flatMap]

theorem strideFlatten_dot (v : VarLay) (s c k : List Nat)
    (h1 : s.length = c.length) (h2 : s.length = k.length) (h3 : s.length = v.shape.length)
    (hne : s ≠ []) (hel : 0 < v.xsz)
    (h1d : v.isRec = true → v.shape.length = 1 → k.getLastD 1 = 1 → v.recsize = v.xsz ∨ c.getLastD 0 ≤ 1) :
    expandBlocks v.xsz (strideFlatten v s c k).1 (strideFlatten v s c k).2
      = (enumIdx s c k).map (dot (units v)) := by
  obtain ⟨s0, ss, rfl⟩ := List.exists_cons_of_ne_nil hne
  obtain ⟨c0, cs, k0, ks, n0, ns, rfl, rfl, hsh, h1, h2, h3⟩ := exists_cons_of_length_cons h1 h2 h3
  unfold strideFlatten units
  simp only [hsh, List.length_cons, expandBlocks_sfLoop, List.drop_succ_cons, List.drop_zero] at h1d ⊢
  cases ns with
  | nil =>
    obtain ⟨rfl, rfl, rfl⟩ := eq_nil_of_length_nil h3.symm (h3.symm.trans h1) (h3.symm.trans h2)
    cases hr : v.isRec
    · simpa [sfHigher, markDim0, sfLoop, unitsFixed, prod, ← extend_single] using
        base_expand v.xsz v.xsz s0 c0 k0 hel (fun _ => Or.inl rfl)
    · simpa [sfHigher, markDim0, sfLoop, unitsFixed, ← extend_single] using
        base_expand v.xsz v.recsize s0 c0 k0 hel (h1d hr rfl)
  | cons n1 ns =>
    have hpos : 0 < ss.length := h3 ▸ Nat.succ_pos _
    have hss := List.ne_nil_of_length_pos hpos
    have h0 : ¬ ((n1 :: ns).length + 1 = 1 ∧ v.isRec = true) := by simp
    have hdl : (if v.isRec = true then v.recsize :: n1 :: ns else n0 :: n1 :: ns)
        = (if v.isRec = true then v.recsize else n0) :: n1 :: ns := by cases v.isRec <;> rfl
    rw [if_neg h0, base_expand _ _ _ _ _ hel (fun _ => Or.inl rfl), getLastD_cons _ _ _ hss,
      getLastD_cons _ _ _ (List.ne_nil_of_length_pos (h1 ▸ hpos)),
      getLastD_cons _ _ _ (List.ne_nil_of_length_pos (h2 ▸ hpos)),
      hdl, sfHigher, markDim0_append, sfLoop_sfHigher _ _ _ ss cs ks _ h1 h2 h3 hss, sfLoop, sfLoop, extend_enumIdx]
    -- what is left of the loop was its last entry, dimension 0 with the mark: its unit is `recsize` for a
    -- record variable and `array_len = xsz * Π shape[1..]` otherwise, as in `units v`
    cases v.isRec <;> simp [unitsFixed, prod, Nat.mul_assoc, Nat.mul_comm n1]

end PnVerif.Access
