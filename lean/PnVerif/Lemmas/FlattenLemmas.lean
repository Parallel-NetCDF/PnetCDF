import PnVerif.Model.Flatten
import PnVerif.Lemmas.Access
import PnVerif.Lemmas.MergeLemmas
/-
  Lemmas about Model/Flatten.lean.  vars_flatten is related to the transcription of stride_flatten
  (Model/Access.lean, `strideFlatten`) for a fixed-size array, whose correctness is
  Props.C01.strideFlatten_offsets.
-/
namespace PnVerif.Flatten
open PnVerif.Access PnVerif.Merge

/-- one pass of the while loop is one `extend` step (needs count[d] ≥ 1, which `*nseg != 0` guarantees) -/
theorem vfStep_eq_extend (el a s c k : Nat) (offs : List Nat) (hc : 0 < c) :
    vfStep el a s c k offs = extend offs ⟨s, c, k, a * el⟩ := by
  obtain ⟨c', rfl⟩ := Nat.exists_eq_succ_of_ne_zero (Nat.ne_of_gt hc)
  unfold vfStep extend
  rw [flatMap_range_succ]
  simp only [Nat.succ_sub_one, List.map_map, Function.comp_def, Nat.zero_mul, Nat.add_zero, Nat.mul_assoc,
    Nat.mul_left_comm a k el]

theorem vfLoop_eq_sfLoop (el d0 : Nat) (xs : List (Nat × Nat × Nat × Nat × Bool)) :
    ∀ (a : Nat) (offs : List Nat), (∀ x ∈ xs, 0 < x.2.1) →
      vfLoop el xs a offs = sfLoop false d0 xs (a * el) offs := by
  induction xs with
  | nil => intro a offs _; rfl
  | cons x rest ih =>
    intro a offs h
    obtain ⟨s, c, k, dl, f⟩ := x
    have hc : 0 < c := h (s, c, k, dl, f) List.mem_cons_self
    simp only [vfLoop, sfLoop, Bool.false_eq_true, and_false, if_false]
    rw [vfStep_eq_extend _ _ _ _ _ _ hc, ih _ _ (fun y hy => h y (List.mem_cons_of_mem _ hy)),
      Nat.mul_right_comm a dl el]

theorem extend_shift (o : Nat) (disps : List Nat) (d : Dim) :
    extend (disps.map (fun x => o + x)) d = (extend disps d).map (fun x => o + x) := by
  simp only [extend, List.map_flatMap, List.map_map, Function.comp_def, Nat.add_assoc]

theorem sfLoop_shift (o : Nat) (r : Bool) (d0 : Nat) (xs : List (Nat × Nat × Nat × Nat × Bool)) (a : Nat)
    (disps : List Nat) :
    sfLoop r d0 xs a (disps.map (fun x => o + x)) = (sfLoop r d0 xs a disps).map (fun x => o + x) := by
  induction xs generalizing a disps with
  | nil => rfl
  | cons x rest ih =>
    obtain ⟨s, c, k, dl, f⟩ := x
    simp only [sfLoop, extend_shift, ih]

theorem sfHigher_counts (s c k dl : List Nat) (h : ∀ x ∈ c, 0 < x) : ∀ y ∈ sfHigher s c k dl, 0 < y.2.1 := by
  fun_induction sfHigher s c k dl with
  | case1 s ss c cs k ks _ dl1 dls ih =>
    intro y hy
    rcases List.mem_append.mp hy with hy | hy
    · exact ih (fun x hx => h x (List.mem_cons_of_mem _ hx)) y hy
    · rw [List.mem_singleton.mp hy]; exact h c List.mem_cons_self
  | case2 => intro y hy; cases hy

theorem sfLoop_markDim0 (d0 : Nat) (xs : List (Nat × Nat × Nat × Nat × Bool)) (a : Nat) (disps : List Nat) :
    sfLoop false d0 (markDim0 xs) a disps = sfLoop false d0 xs a disps := by
  fun_induction markDim0 xs generalizing a disps with
  | case1 => rfl
  | case2 s c k dl f => simp [sfLoop]
  | case3 x xs _ ih => obtain ⟨s, c, k, dl, f⟩ := x; simp only [sfLoop, ih]

theorem expandBlocks_shift (el o seg : Nat) (disps : List Nat) :
    expandBlocks el (disps.map (fun x => o + x)) seg = (expandBlocks el disps seg).map (fun x => o + x) := by
  simp only [expandBlocks, List.flatMap_map, List.map_flatMap, List.map_map, Function.comp_def, Nat.add_assoc]

theorem varsFlattenOffs_eq (el offset : Nat) (dimlen s c k : List Nat) (hpos : ∀ x ∈ c, 0 < x) (hne : c ≠ []) :
    let v : VarLay := { begin := offset, xsz := el, shape := dimlen, isRec := false, recsize := 0 }
    varsFlattenOffs el offset dimlen s c k
      = ((strideFlatten v s c k).1.map (fun x => offset + x), (strideFlatten v s c k).2) := by
  intro v
  have hnseg : ¬ ((if k.getLastD 1 = 1 then 1 else c.getLastD 0) * prod c.dropLast = 0) := by
    obtain ⟨c0, cs, rfl⟩ := List.exists_cons_of_ne_nil hne
    have h1 : 0 < (c0 :: cs).getLastD 0 := hpos _ (List.getLast_mem (List.cons_ne_nil c0 cs))
    have h2 := prod_pos _ (fun x hx => hpos x ((List.dropLast_sublist _).subset hx))
    exact Nat.ne_of_gt (Nat.mul_pos (by split <;> omega) h2)
  unfold varsFlattenOffs strideFlatten
  simp only [hnseg, if_false, v, Bool.false_eq_true, and_false]
  rw [vfLoop_eq_sfLoop el (dimlen.headD 0) _ 1 _ (sfHigher_counts s c k dimlen hpos), Nat.one_mul,
      sfLoop_markDim0, ← sfLoop_shift]
  simp only [List.map_map, Function.comp_def, Nat.zero_add, Nat.add_assoc]

theorem bufGo_bytes (a0 cs cl : Int) (rest : List (Int × Int)) (hcl : 0 ≤ cl) (hp : ∀ r ∈ rest, 0 ≤ r.2) :
    (bufGo a0 cs cl rest).flatMap (fun p => span (a0 + p.1) p.2) = span cs cl ++ rest.flatMap (fun r => span r.1 r.2) := by
  have e (x : Int) : a0 + (x - a0) = x := by omega
  fun_induction bufGo a0 cs cl rest with
  | case1 cs cl => simp [e]
  | case2 cs cl ai sz rest h ih =>
    -- the request extends the run: it starts where the run ends
    obtain ⟨hsz, hp'⟩ := List.forall_mem_cons.mp hp
    have : cs + cl = ai := by omega
    rw [ih (by omega) hp', span_add cs cl sz hcl hsz, this, List.flatMap_cons, List.append_assoc]
  | case3 cs cl ai sz rest h ih =>
    obtain ⟨hsz, hp'⟩ := List.forall_mem_cons.mp hp
    rw [List.flatMap_cons, ih hsz hp', e, List.flatMap_cons]

theorem bufBlocks_bytes (reqs : List (Int × Int)) (hp : ∀ r ∈ reqs, 0 ≤ r.2) :
    (bufBlocks reqs).flatMap (fun p => span ((reqs.head?.map (fun r => r.1)).getD 0 + p.1) p.2)
      = reqs.flatMap (fun r => span r.1 r.2) := by
  cases reqs with
  | nil => rfl
  | cons r rest =>
    obtain ⟨h0, hp'⟩ := List.forall_mem_cons.mp hp
    exact bufGo_bytes r.1 r.1 r.2 rest h0 hp'

end PnVerif.Flatten
