import PnVerif.Model.Access
namespace PnVerif.Access

/-- `Scs.Below` is the same predicate in the request checker's model, which shows it of the indices of
    accepted requests (C15) -/
def inBounds : List Nat → List Nat → Prop
  | [], [] => True
  | n :: ns, i :: is => i < n ∧ inBounds ns is
  | _, _ => False

instance : (shape idx : List Nat) → Decidable (inBounds shape idx)
  | [], [] => isTrue trivial
  | n :: ns, i :: is => by
      have := instDecidableInBounds ns is
      unfold inBounds; infer_instance
  | [], _ :: _ => isFalse (by simp [inBounds])
  | _ :: _, [] => isFalse (by simp [inBounds])

theorem mul_add_le_of_lt {p q : Nat} (h : p < q) (x : Nat) : p * x + x ≤ q * x := by
  rw [← Nat.succ_mul]; exact Nat.mul_le_mul_right x h

theorem rowMajor_lt (shape idx : List Nat) (h : inBounds shape idx) : rowMajor shape idx < prod shape := by
  fun_induction inBounds shape idx with
  | case1 => exact Nat.one_pos
  | case2 n ns i is ih =>
    have h1 := mul_add_le_of_lt h.1 (prod ns)
    have h2 := ih h.2
    simp only [rowMajor, prod]
    omega
  | case3 => exact h.elim

theorem scaled_disjoint (p q xsz : Nat) (h : p ≠ q) : p * xsz + xsz ≤ q * xsz ∨ q * xsz + xsz ≤ p * xsz :=
  (Nat.lt_or_gt_of_ne h).imp (mul_add_le_of_lt · xsz) (mul_add_le_of_lt · xsz)

theorem rowMajor_inj (shape idx idx' : List Nat) (h : inBounds shape idx) (h' : inBounds shape idx')
    (heq : rowMajor shape idx = rowMajor shape idx') : idx = idx' := by
  fun_induction inBounds shape idx generalizing idx' with
  | case1 => cases idx' with | nil => rfl | cons => exact h'.elim
  | case3 => exact h.elim
  | case2 n ns i is ih =>
    cases idx' with
    | nil => exact h'.elim
    | cons i' is' =>
      simp only [rowMajor] at heq
      have hr := rowMajor_lt ns is h.2
      have hr' := rowMajor_lt ns is' h'.2
      -- different leading indices are at least `prod ns` apart
      have hi : i = i' := Decidable.byContradiction fun hne => by
        rcases scaled_disjoint i i' (prod ns) hne with h' | h' <;> omega
      subst hi
      rw [ih is' h.2 h'.2 (by omega)]

theorem elem_end_le (shape idx : List Nat) (xsz : Nat) (h : inBounds shape idx) :
    rowMajor shape idx * xsz + xsz ≤ prod shape * xsz :=
  mul_add_le_of_lt (rowMajor_lt shape idx h) xsz

theorem rowMajor_disjoint (shape idx idx' : List Nat) (xsz : Nat) (h : inBounds shape idx) (h' : inBounds shape idx')
    (hne : idx ≠ idx') :
    rowMajor shape idx * xsz + xsz ≤ rowMajor shape idx' * xsz
      ∨ rowMajor shape idx' * xsz + xsz ≤ rowMajor shape idx * xsz :=
  scaled_disjoint _ _ xsz (fun heq => hne (rowMajor_inj shape idx idx' h h' heq))

/-- the index form used by ncmpio_first_offset for the dimensions after the first:
    Σ_{j ≤ m-2} idx[j] * Π shape[j+1..]  +  idx[m-1]   =   rowMajor shape idx      (m = length ≥ 1) -/
theorem sumRange_rowMajor (shape idx : List Nat) (h : shape.length = idx.length) (hpos : 0 < shape.length) :
    sumRange (shape.length - 1) (fun j => idx.getD j 0 * prod (shape.drop (j + 1))) + idx.getD (shape.length - 1) 0
      = rowMajor shape idx := by
  induction shape generalizing idx with
  | nil => simp at hpos
  | cons a as ih =>
    obtain ⟨s, ss, rfl⟩ := List.exists_cons_of_length_eq_add_one h.symm
    simp only [List.length_cons, Nat.add_right_cancel_iff] at h
    cases as with
    | nil => simp [sumRange, rowMajor, prod]
    | cons b bs =>
      have ih' := ih ss h (Nat.succ_pos _)
      simp only [List.length_cons, Nat.add_sub_cancel, sumRange, List.getD_cons_succ, List.getD_cons_zero,
        List.drop_succ_cons, List.drop_zero, rowMajor] at ih' ⊢
      omega

end PnVerif.Access
