import PnVerif.Lemmas.Accept
import PnVerif.Lemmas.LayoutLemmas
/-
  The layout NC_begins produces, put into the header the library writes, is a layout the
  specification allows (`Schema.LayoutValid`): C03's output is C04's input.
-/
namespace PnVerif.Layout
open PnVerif.Spec PnVerif.Header

/-- the header with the begins NC_begins computed (what write_NC encodes) -/
def placeVars : List Var → List VarL → List Nat → List Nat → List Var
  | v :: vs, vl :: vls, fb, rb =>
    if vl.isRec then { v with begin := rb.headD 0 } :: placeVars vs vls fb (rb.drop 1)
    else { v with begin := fb.headD 0 } :: placeVars vs vls (fb.drop 1) rb
  | _, _, _, _ => []

theorem placeVars_eq_zip : ∀ (vars : List Var) (vls : List VarL) (fb rb : List Nat), vars.length = vls.length →
    placeVars vars vls fb rb = List.zipWith (fun v b => { v with begin := b }) vars (interleave vls fb rb) := by
  intro vars
  induction vars with
  | nil => intro vls fb rb _; cases vls <;> simp [placeVars]
  | cons v vs ih =>
    intro vls fb rb hl
    cases vls with
    | nil => simp at hl
    | cons vl vls =>
      simp only [List.length_cons, Nat.add_right_cancel_iff] at hl
      simp only [placeVars, interleave]
      split <;> simp [ih _ _ _ hl]

theorem isRecVar_begin (d : Schema) (v : Var) (b : Nat) : d.isRecVar { v with begin := b } = d.isRecVar v := rfl
theorem varLen_begin (d : Schema) (v : Var) (b : Nat) : d.varLen { v with begin := b } = d.varLen v := rfl

/-! `g` is NC_begins' view of a variable of the schema: same kind, same length. -/

/-- fixed-size variables: a chain in NC_begins' sense is a chain in the specification's sense -/
theorem chainFrom_fixed (d : Schema) {g : Var → VarL} (vars : List Var) (fb rb : List Nat) (prev : Nat)
    (hc : chainOk ((vars.map g).filter (fun v => !v.isRec)) fb prev)
    (hg : ∀ v, d.isRecVar v = (g v).isRec ∧ d.varLen v = (g v).len) :
    d.chainFrom false (placeVars vars (vars.map g) fb rb) prev =
      some (endOf ((vars.map g).filter (fun v => !v.isRec)) fb prev) := by
  induction vars generalizing fb rb prev with
  | nil => simp [placeVars, Schema.chainFrom, endOf]
  | cons v vs ih =>
    obtain ⟨h1, h2⟩ := hg v
    cases hr : (g v).isRec with
    | true =>
      simp only [List.map_cons, placeVars, hr, if_true, Schema.chainFrom, isRecVar_begin, h1, List.filter_cons,
        Bool.not_true, Bool.false_eq_true, if_false, Bool.true_bne, Bool.not_false] at hc ⊢
      exact ih fb (rb.drop 1) prev hc
    | false =>
      simp only [List.map_cons, List.filter_cons, hr, Bool.not_false, if_true] at hc ⊢
      cases fb with
      | nil => simp [chainOk] at hc
      | cons b bs =>
        have hnlt : ¬ b < prev := Nat.not_lt.mpr hc.1
        simp only [placeVars, hr, Bool.false_eq_true, if_false, List.headD_cons, List.drop_succ_cons, List.drop_zero,
          Schema.chainFrom, isRecVar_begin, varLen_begin, h1, h2, bne_self_eq_false, hnlt, endOf]
        exact ih bs rb (b + (g v).len) hc.2

/-- record variables laid out back to back from `br` (not before `prev`) form a chain -/
theorem chainFrom_rec (d : Schema) {g : Var → VarL} (vars : List Var) (fb rb : List Nat) (br prev : Nat)
    (hrb : rb = consec ((vars.map g).filter (fun v => v.isRec)) br) (hle : prev ≤ br)
    (hg : ∀ v, d.isRecVar v = (g v).isRec ∧ d.varLen v = (g v).len) :
    ∃ e, d.chainFrom true (placeVars vars (vars.map g) fb rb) prev = some e := by
  subst hrb
  induction vars generalizing fb br prev with
  | nil => exact ⟨prev, by simp [placeVars, Schema.chainFrom]⟩
  | cons v vs ih =>
    obtain ⟨h1, h2⟩ := hg v
    cases hr : (g v).isRec with
    | true =>
      have hnlt : ¬ br < prev := Nat.not_lt.mpr hle
      simp only [List.map_cons, List.filter_cons, hr, if_true, consec, placeVars, List.headD_cons, List.drop_succ_cons,
        List.drop_zero, Schema.chainFrom, isRecVar_begin, varLen_begin, h1, h2, bne_self_eq_false, Bool.false_eq_true,
        if_false, hnlt]
      exact ih fb (br + (g v).len) (br + (g v).len) (Nat.le_refl _)
    | false =>
      simp only [List.map_cons, List.filter_cons, hr, Bool.false_eq_true, if_false, placeVars, Schema.chainFrom,
        isRecVar_begin, h1, Bool.false_bne, if_true]
      exact ih (fb.drop 1) br prev hle

/-- NC_begins' view of the variables of a schema, written out -/
def vlsOf (h : Hdr) : List VarL :=
  h.vars.map (fun v => { isRec := h.isRecVar v, len := h.varLen v, packed := dsizes0 (shapeS h v) * v.xtype.size })

theorem mapM_ok_mem {α β ε : Type} (f : α → Except ε β) : ∀ (l : List α) (out : List β),
    l.mapM f = .ok out → ∀ y ∈ out, ∃ x ∈ l, f x = .ok y := by
  intro l
  induction l with
  | nil =>
    intro out ho
    simp only [List.mapM_nil, pure, Except.pure, Except.ok.injEq] at ho
    subst ho
    exact fun y hy => nomatch hy
  | cons a t ih =>
    intro out ho
    simp only [List.mapM_cons, bind, Except.bind] at ho
    split at ho
    · contradiction
    · rename_i x hx
      split at ho
      · contradiction
      · rename_i xs hxs
        simp only [pure, Except.pure, Except.ok.injEq] at ho
        subst ho
        intro y hy
        rcases List.mem_cons.mp hy with rfl | hy'
        · exact ⟨a, List.mem_cons_self, hx⟩
        · obtain ⟨x', hx', hfx⟩ := ih xs hxs y hy'
          exact ⟨x', List.mem_cons_of_mem _ hx', hfx⟩

theorem varsOf_mem (h : Hdr) (vars : List VarL) (hv : varsOf h = .ok vars) (v : VarL) (hm : v ∈ vars) :
    ∃ a shape len, varShape64 h.dims a = .ok (shape, len) ∧
      v = { isRec := isRecShape shape, len := len, packed := dsizes0 shape * a.xtype.size } := by
  obtain ⟨a, _, ha⟩ := mapM_ok_mem _ _ _ hv v hm
  split at ha
  · contradiction
  · rename_i shape len hsl
    exact ⟨a, shape, len, hsl, (Except.ok.inj ha).symm⟩

theorem varsOf_len (h : Hdr) (vars : List VarL) (hv : varsOf h = .ok vars) :
    ∀ v ∈ vars, v.len % 4 = 0 ∧ 0 < v.len := by
  intro v hm
  obtain ⟨a, shape, len, hsl, rfl⟩ := varsOf_mem h vars hv v hm
  exact varShape64_len h a shape len hsl

/-- the hypothesis `packed ≤ len` of `specRecsize_mono` / `redef_layout_ok` holds for every variable
    list computed from a schema by the model of ncmpio_NC_var_shape64 -/
theorem varsOf_packed (h : Hdr) (vars : List VarL) (hv : varsOf h = .ok vars) :
    ∀ v ∈ vars, v.packed ≤ v.len := by
  intro v hm
  obtain ⟨a, shape, len, hsl, rfl⟩ := varsOf_mem h vars hv v hm
  exact varShape64_packed h.dims a shape len hsl

/-- NC_begins' view of one variable of the schema -/
def viewOf (h : Hdr) (v : Var) : VarL :=
  { isRec := h.isRecVar v, len := h.varLen v, packed := dsizes0 (shapeS h v) * v.xtype.size }

theorem vlsOf_eq_map (h : Hdr) : vlsOf h = h.vars.map (viewOf h) := rfl

theorem varsOf_valid (h : Hdr) (hv : ∀ v ∈ h.vars, VarValid h v) : varsOf h = .ok (vlsOf h) := by
  unfold varsOf vlsOf
  generalize h.vars = l at hv ⊢
  induction l with
  | nil => rfl
  | cons a t ih =>
    have ha := hv a (by simp)
    simp only [List.mapM_cons, varShape64_ok h a ha.1 ha.2, isRecShape_eq h a ha.1.1, bind, Except.bind,
      ih (fun v hv' => hv v (by simp [hv'])), pure, Except.pure, List.map_cons]

theorem chainOk_weaken : ∀ (vs : List VarL) (bs : List Nat) (p p' : Nat), p' ≤ p → chainOk vs bs p →
    chainOk vs bs p' ∧ endOf vs bs p' ≤ endOf vs bs p := by
  intro vs bs p p' hle hc
  cases vs with
  | nil =>
    cases bs with
    | nil => exact ⟨trivial, by simpa [endOf] using hle⟩
    | cons b bs => simp [chainOk] at hc
  | cons v vs =>
    cases bs with
    | nil => simp [chainOk] at hc
    | cons b bs =>
      simp only [chainOk] at hc ⊢
      exact ⟨⟨by omega, hc.2⟩, by simp [endOf]⟩

theorem placeVars_map {β : Type} (φ : Var → β) (hφ : ∀ v b, φ { v with begin := b } = φ v) (g : Var → VarL)
    (vars : List Var) (fb rb : List Nat) : (placeVars vars (vars.map g) fb rb).map φ = vars.map φ := by
  induction vars generalizing fb rb with
  | nil => rfl
  | cons v vs ih =>
    simp only [List.map_cons, placeVars]
    split <;> simp only [List.map_cons, ih, hφ]

theorem mem_placeVars {g : Var → VarL} {vars : List Var} {fb rb : List Nat} {x : Var}
    (hx : x ∈ placeVars vars (vars.map g) fb rb) : ∃ v ∈ vars, x = { v with begin := x.begin } := by
  have := List.mem_map_of_mem (f := fun v : Var => { v with begin := 0 }) hx
  rw [placeVars_map _ (fun _ _ => rfl)] at this
  obtain ⟨v, hv, he⟩ := List.mem_map.mp this
  -- `he`: x and v agree once their begins are zeroed; put x's begin back on both sides
  have hx' : x = { ({ x with begin := 0 } : Var) with begin := x.begin } := rfl
  rw [← he] at hx'
  exact ⟨v, hv, hx'⟩

/-- the header write_NC encodes after NC_begins produced `L` -/
def written (h : Hdr) (L : Layout) : Hdr := { h with vars := placeVars h.vars (vlsOf h) L.fixedBegins L.recBegins }

/-- `written h L` has the dimensions of `h` -/
theorem written_same (h : Hdr) (L : Layout) (v : Var) :
    (written h L).isRecVar v = (viewOf h v).isRec ∧ (written h L).varLen v = (viewOf h v).len := ⟨rfl, rfl⟩

theorem written_valid (h : Hdr) (L : Layout) (v : Var) (b : Nat) :
    VarValid (written h L) { v with begin := b } ↔ VarValid h v := Iff.rfl

theorem written_len (h : Hdr) (L : Layout) : Hdr.len (written h L) = Hdr.len h := by
  unfold Hdr.len written lenVarArray vlsOf
  simp only [placeVars_map (lenVar _ _) (fun _ _ => rfl)]

/-- C03 ⟶ C04: the header the library writes with the begins NC_begins computed is a layout the
    specification allows — for every schema of valid variables, new file or redefinition -/
theorem written_layout_valid (h : Hdr) (hv : ∀ v ∈ h.vars, VarValid h v) (al : Align) (old : Option Old) (L : Layout)
    (hw : LayoutWF (Hdr.len h) (vlsOf h) al old L) :
    (written h L).LayoutValid (Hdr.len (written h L)) := by
  rw [written_len]
  rw [vlsOf_eq_map] at hw
  obtain ⟨bv0, hx, _, hc, he⟩ := hw.fixedOk
  obtain ⟨hc', hle⟩ := chainOk_weaken _ _ _ _ hx hc
  have hfix := chainFrom_fixed (written h L) (g := viewOf h) h.vars L.fixedBegins L.recBegins (Hdr.len h) hc'
    (written_same h L)
  obtain ⟨e', hrec⟩ := chainFrom_rec (written h L) (g := viewOf h) h.vars L.fixedBegins L.recBegins L.beginRec
    (endOf ((h.vars.map (viewOf h)).filter (fun v => !v.isRec)) L.fixedBegins (Hdr.len h)) hw.recs (by omega) (written_same h L)
  have hvalid : ∀ x ∈ (written h L).vars, VarValid (written h L) x := by
    intro x hx
    obtain ⟨v, hvm, e⟩ := mem_placeVars hx
    rw [e]; exact (written_valid h L v _).mpr (hv v hvm)
  exact ⟨fun x hx => (hvalid x hx).1, fun x hx => (hvalid x hx).2, _, hfix, e', hrec⟩

end PnVerif.Layout
