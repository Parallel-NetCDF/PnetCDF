import PnVerif.Lemmas.SafetyWf
/-
  Lemmas/SafetyStrict.lean — the reader of a tree that carries the int63 repair (Model/Safety.lean §5)
  against the reader as it stands:
    * `strict = false` IS the reader as it stands;
    * `strict = true` is CONSERVATIVE: whatever it accepts, the reader as it stands accepts with the
      same result (so every theorem about accepted headers carries over), and it only ever adds the
      error NC_ENOTNC;
    * the two agree on every header whose 64-bit fields and begin + len stay below 2^63.
-/
namespace PnVerif.Safety
open PnVerif.Spec PnVerif.Header

theorem guard_false {α : Type} {c : Prop} [Decidable (false = true ∧ c)] {p q : α} :
    (if false = true ∧ c then p else q) = q :=
  if_neg fun h => Bool.noConfusion h.1

theorem getDimsS_false (ver : Nat) : ∀ n hu, getDimsS false ver n hu = getDims ver n hu := by
  intro n
  induction n with
  | zero => exact fun _ => rfl
  | succ n ih =>
    intro hu
    simp only [getDimsS, getDims, getDimS, getDim, guard_false, ih]

theorem getAttrArrayS_false (ver : Nat) : getAttrArrayS false ver = getAttrArray ver := by
  simp only [getAttrArrayS, getAttrArray, getAttrS, getAttr, guard_false]

theorem getBodyS_false (f : Fmt) : getBodyS false f = getBody f := by
  simp only [getBodyS, getBody, getDimArrayS, getDimArray, getVarArrayS, getVarArray, getVarS, getVar,
    getDimsS_false, getAttrArrayS_false, guard_false]

theorem cvsLoopS_false (dims : List Dim) : ∀ vs st, cvsLoopS false dims vs st = cvsLoop dims vs st := by
  intro vs
  induction vs with
  | nil => exact fun _ => rfl
  | cons v vs ih =>
    intro st
    simp only [cvsLoopS, cvsLoop, guard_false, ih]
    rfl

theorem postPassS_false (h : Hdr) : postPassS false h = postPass h := by
  simp only [postPassS, postPass, computeVarShapeS, computeVarShape, cvsLoopS_false]
  rfl

theorem decodeWholeS_false (file : Bytes) : decodeWholeS false file = decodeWhole file := by
  simp only [decodeWholeS, decodeWhole, getBodyS_false, postPassS_false]
  rfl

/-- `openGuardedS false` is what lean/Driver/C19.lean calls for a tree without the repairs -/
theorem openGuardedS_false (limit : Nat) (file : Bytes) : openGuardedS false limit file = openGuarded limit file := by
  simp only [openGuardedS, openGuarded, getBodyS_false, postPassS_false]

theorem getDimS_sub (st : Bool) (ver : Nat) (hu : Bool) :
    Sub (getDimS st ver hu) (getDim ver hu) (fun d => st = true → d.size ≤ X_INT64_MAX) := by
  unfold getDimS getDim
  refine sub_bind (sub_true _) fun nm _ => sub_bind (sub_true _) fun l _ => sub_guard fun hn => ?_
  exact sub_test fun _ => sub_ret fun hst => Nat.not_lt.mp fun hl => hn ⟨hst, hl⟩

theorem getDimsS_sub (st : Bool) (ver : Nat) : ∀ n hu,
    Sub (getDimsS st ver n hu) (getDims ver n hu) (fun ds => st = true → ∀ d ∈ ds, d.size ≤ X_INT64_MAX) := by
  intro n
  induction n with
  | zero => exact fun _ => sub_ret fun _ _ hd => nomatch hd
  | succ n ih =>
    intro hu
    refine sub_bind (getDimS_sub st ver hu) fun d hd => sub_bind (ih _) fun ds hds => ?_
    exact sub_ret fun hst => List.forall_mem_cons.mpr ⟨hd hst, hds hst⟩

/-- nothing is recorded about the attribute `nelems` that passed the range test of `getAttrS` -/
theorem getAttrArrayS_sub (st : Bool) (ver : Nat) :
    Sub (getAttrArrayS st ver) (getAttrArray ver) (fun _ => True) := by
  unfold getAttrArrayS getAttrArray
  refine sub_getArray trivial fun n _ => sub_mono (sub_getN (Q := fun _ => True) ?_ n) fun _ _ => trivial
  unfold getAttrS getAttr
  refine sub_bind (sub_true _) fun nm _ => sub_bind (sub_true _) fun t _ => sub_bind (sub_true _) fun n _ => ?_
  exact sub_guard fun _ => sub_true _

theorem getVarS_sub (st : Bool) (ver nd : Nat) :
    Sub (getVarS st ver nd) (getVar ver nd) (fun v => st = true → v.begin ≤ X_INT64_MAX) := by
  unfold getVarS getVar
  refine sub_bind (sub_true _) fun nm _ => sub_bind (sub_true _) fun ndims _ => sub_test fun _ => ?_
  refine sub_bind (sub_true _) fun ids _ => sub_bind (getAttrArrayS_sub st ver) fun as _ => ?_
  refine sub_bind (sub_true _) fun t _ => sub_bind (sub_true _) fun vs _ => sub_bind (sub_true _) fun b _ => ?_
  exact sub_guard fun hn => sub_ret fun hst => Nat.not_lt.mp fun hl => hn ⟨hst, hl⟩

theorem getBodyS_sub (st : Bool) (f : Fmt) : Sub (getBodyS st f) (getBody f) (fun h => st = true →
    h.numrecs ≤ X_INT64_MAX ∧ (∀ d ∈ h.dims, d.size ≤ X_INT64_MAX) ∧ ∀ v ∈ h.vars, v.begin ≤ X_INT64_MAX) := by
  unfold getBodyS getBody getDimArrayS getDimArray getVarArrayS getVarArray
  refine sub_bind (sub_true _) fun nr _ => sub_guard fun hn => ?_
  refine sub_bind (sub_getArray (fun _ _ hd => nomatch hd) fun n _ => getDimsS_sub st _ n false) fun ds hds => ?_
  refine sub_bind (getAttrArrayS_sub st _) fun gs _ => ?_
  refine sub_bind (sub_getArray (Q := fun vs => st = true → ∀ v ∈ vs, v.begin ≤ X_INT64_MAX)
    (fun _ _ hv => nomatch hv) fun n _ => sub_mono (sub_getN (getVarS_sub st _ _) n) fun vs h hst v hv => h.1 v hv hst)
    fun vs hvs => ?_
  exact sub_ret fun hst => ⟨Nat.not_lt.mp fun hl => hn ⟨hst, hl⟩, hds hst, hvs hst⟩

theorem cvsLoopS_ok (st : Bool) (dims : List Dim) : ∀ vs s s', cvsLoopS st dims vs s = .ok s' →
    cvsLoop dims vs s = .ok s' ∧ ∀ v ∈ vs, ∃ shape len, varShape64 dims v = .ok (shape, len) ∧
      (st = true → v.begin + len ≤ X_INT64_MAX) := by
  intro vs
  induction vs with
  | nil => exact fun s s' h => ⟨h, fun _ hv => nomatch hv⟩
  | cons a t ih =>
    intro s s' h
    simp only [cvsLoopS] at h
    simp only [cvsLoop]
    split at h
    · contradiction
    · rename_i shape len hsl
      simp only [hsl]
      split at h
      · contradiction
      · rename_i hn
        have key : ∀ s1, cvsLoopS st dims t s1 = .ok s' → cvsLoop dims t s1 = .ok s' ∧
            ∀ v ∈ a :: t, ∃ shape len, varShape64 dims v = .ok (shape, len) ∧
              (st = true → v.begin + len ≤ X_INT64_MAX) := fun s1 h1 =>
          ⟨(ih _ _ h1).1, List.forall_mem_cons.mpr
            ⟨⟨shape, len, hsl, fun hst => Nat.not_lt.mp fun hl => hn ⟨hst, hl⟩⟩, (ih _ _ h1).2⟩⟩
        by_cases hrec : isRecShape shape = true
        · rw [if_pos hrec] at h ⊢
          exact key _ h
        · rw [if_neg hrec] at h ⊢
          exact key _ h

theorem postPassS_ok (st : Bool) (d : Schema) (info : Info) (hp : postPassS st d = .ok info) :
    postPass d = .ok info ∧ ∀ v ∈ d.vars, ∃ shape len, varShape64 d.dims v = .ok (shape, len) ∧
      (st = true → v.begin + len ≤ X_INT64_MAX) := by
  unfold postPassS computeVarShapeS at hp
  unfold postPass computeVarShape
  by_cases h0 : d.vars.length = 0
  · simp only [if_pos h0] at hp ⊢
    exact ⟨hp, fun v hv => by rw [List.eq_nil_of_length_eq_zero h0] at hv; cases hv⟩
  · simp only [if_neg h0] at hp ⊢
    generalize hc : cvsLoopS st d.dims d.vars _ = r at hp
    cases r with
    | error e => cases hp
    | ok s' =>
      rw [(cvsLoopS_ok st _ _ _ _ hc).1]
      exact ⟨hp, (cvsLoopS_ok st _ _ _ _ hc).2⟩

theorem postPass_recFirst (d : Schema) (info : Info) (h : postPass d = .ok info) :
    ∀ v ∈ d.vars, ∀ id ∈ v.dimids.drop 1, d.isRecDim id = false := by
  intro v hv
  obtain ⟨shape, len, hsl, _⟩ := (postPassS_ok false d info (postPassS_false d ▸ h)).2 v hv
  exact varShape64_recFirst d v shape len hsl

theorem decodeWholeS_inv {st : Bool} {file : Bytes} {h : Hdr} {info : Info} (hd : decodeWholeS st file = .ok (h, info)) :
    ∃ f s', checkMagic (ztake 12 file) = .ok f ∧ run flatR (getBodyS st f) (file.drop 4) = .ok (h, s') ∧
      postPassS st h = .ok info := by
  unfold decodeWholeS at hd
  split at hd
  · contradiction
  · rename_i f hf
    split at hd
    · contradiction
    · rename_i h' s' hr
      split at hd
      · contradiction
      · rename_i info' hp
        cases hd
        exact ⟨f, s', hf, hr, hp⟩

/-- Whatever the repaired reader accepts, the reader as it stands accepts with the same header and
    the same derived layout. -/
theorem decodeWholeS_ok (st : Bool) (file : Bytes) (h : Hdr) (info : Info)
    (hd : decodeWholeS st file = .ok (h, info)) :
    decodeWhole file = .ok (h, info) ∧ (st = true → h.numrecs ≤ X_INT64_MAX ∧
      (∀ d ∈ h.dims, d.size ≤ X_INT64_MAX) ∧
      (∀ v ∈ h.vars, v.begin ≤ X_INT64_MAX ∧ v.begin + h.varLen v ≤ X_INT64_MAX)) := by
  obtain ⟨f, s', hm, hr, hp⟩ := decodeWholeS_inv hd
  obtain ⟨hr', hb⟩ := getBodyS_sub st f _ _ _ hr
  obtain ⟨hp', hfit⟩ := postPassS_ok st h info hp
  refine ⟨?_, fun hst => ⟨(hb hst).1, (hb hst).2.1, fun v hv => ⟨(hb hst).2.2 v hv, ?_⟩⟩⟩
  · unfold decodeWhole
    simp only [hm, hr', hp']
  · obtain ⟨shape, len, hsl, hf⟩ := hfit v hv
    exact varShape64_spec h v shape len hsl ▸ hf hst

end PnVerif.Safety
