/- GENERATED by tools/gen_ncx.py -- one theorem per conversion primitive of ncx.c -/
import PnVerif.Gen.Ncx
import PnVerif.Spec.ConvSpec
import PnVerif.Base.FVLemmas
namespace PnVerif.Gen.NcxProofs
open PnVerif PnVerif.Gen.Ncx
set_option linter.unusedVariables false

theorem get_NC_SHORT_schar_ok (R : Rounding) (v : Int) (hlo : (-32768 : Int) ≤ v) (hhi : v ≤ (32767 : Int)) :
    get_NC_SHORT_schar R v = ConvSpec.specII (-128 : Int) (127 : Int) (-127 : Int) v :=
  ConvSpec.specII_of_or (ConvSpec.smod_id rfl (by decide) (by decide))

theorem get_NC_SHORT_short_ok (R : Rounding) (v : Int) (hlo : (-32768 : Int) ≤ v) (hhi : v ≤ (32767 : Int)) :
    get_NC_SHORT_short R v = ConvSpec.specII (-32768 : Int) (32767 : Int) (-32767 : Int) v :=
  ConvSpec.specII_of_mem (by decide) (by decide) hlo hhi fun _ _ => rfl

theorem get_NC_SHORT_int_ok (R : Rounding) (v : Int) (hlo : (-32768 : Int) ≤ v) (hhi : v ≤ (32767 : Int)) :
    get_NC_SHORT_int R v = ConvSpec.specII (-2147483648 : Int) (2147483647 : Int) (-2147483647 : Int) v :=
  ConvSpec.specII_of_mem (by decide) (by decide) hlo hhi fun _ _ => rfl

theorem get_NC_SHORT_long_ok (R : Rounding) (v : Int) (hlo : (-32768 : Int) ≤ v) (hhi : v ≤ (32767 : Int)) :
    get_NC_SHORT_long R v = ConvSpec.specII (-9223372036854775808 : Int) (9223372036854775807 : Int) (-2147483647 : Int) v :=
  ConvSpec.specII_of_mem (by decide) (by decide) hlo hhi fun _ _ => rfl

theorem get_NC_SHORT_longlong_ok (R : Rounding) (v : Int) (hlo : (-32768 : Int) ≤ v) (hhi : v ≤ (32767 : Int)) :
    get_NC_SHORT_longlong R v = ConvSpec.specII (-9223372036854775808 : Int) (9223372036854775807 : Int) (-9223372036854775806 : Int) v :=
  ConvSpec.specII_of_mem (by decide) (by decide) hlo hhi fun _ _ => rfl

theorem get_NC_SHORT_ushort_ok (R : Rounding) (v : Int) (hlo : (-32768 : Int) ≤ v) (hhi : v ≤ (32767 : Int)) :
    get_NC_SHORT_ushort R v = ConvSpec.specII (0 : Int) (65535 : Int) (65535 : Int) v :=
  ConvSpec.specII_of_lt (by decide) hhi (ConvSpec.umod_id (by decide) (by decide))

theorem get_NC_SHORT_uchar_ok (R : Rounding) (v : Int) (hlo : (-32768 : Int) ≤ v) (hhi : v ≤ (32767 : Int)) :
    get_NC_SHORT_uchar R v = ConvSpec.specII (0 : Int) (255 : Int) (255 : Int) v :=
  ConvSpec.specII_of_gt_lt (ConvSpec.umod_id (by decide) (by decide))

theorem get_NC_SHORT_uint_ok (R : Rounding) (v : Int) (hlo : (-32768 : Int) ≤ v) (hhi : v ≤ (32767 : Int)) :
    get_NC_SHORT_uint R v = ConvSpec.specII (0 : Int) (4294967295 : Int) (4294967295 : Int) v :=
  ConvSpec.specII_of_lt (by decide) hhi (ConvSpec.umod_id (by decide) (by decide))

theorem get_NC_SHORT_ulonglong_ok (R : Rounding) (v : Int) (hlo : (-32768 : Int) ≤ v) (hhi : v ≤ (32767 : Int)) :
    get_NC_SHORT_ulonglong R v = ConvSpec.specII (0 : Int) (18446744073709551615 : Int) (18446744073709551614 : Int) v :=
  ConvSpec.specII_of_lt (by decide) hhi (ConvSpec.umod_id (by decide) (by decide))

theorem get_NC_SHORT_float_ok (R : Rounding) (v : Int) (hlo : (-32768 : Int) ≤ v) (hhi : v ≤ (32767 : Int)) :
    get_NC_SHORT_float R v = ConvSpec.specIF32 R v := rfl

theorem get_NC_SHORT_double_ok (R : Rounding) (v : Int) (hlo : (-32768 : Int) ≤ v) (hhi : v ≤ (32767 : Int)) :
    get_NC_SHORT_double R v = ConvSpec.specIF64 R v := rfl

theorem put_NC_SHORT_schar_ok (R : Rounding) (fill : Option Int) (cur : Int) (v : Int) (hlo : (-128 : Int) ≤ v) (hhi : v ≤ (127 : Int)) :
    put_NC_SHORT_schar R fill cur v = ConvSpec.specII (-32768 : Int) (32767 : Int) (fill.getD (-32767 : Int)) v := by
  unfold put_NC_SHORT_schar
  split
  next h1 =>
    exact ConvSpec.specII_of_mem (by decide) (by decide) hlo hhi fun _ _ => by omega
  next h1 =>
    exact ConvSpec.specII_of_mem (by decide) (by decide) hlo hhi fun _ _ => by omega

theorem put_NC_SHORT_uchar_ok (R : Rounding) (fill : Option Int) (cur : Int) (v : Int) (hlo : (0 : Int) ≤ v) (hhi : v ≤ (255 : Int)) :
    put_NC_SHORT_uchar R fill cur v = ConvSpec.specII (-32768 : Int) (32767 : Int) (fill.getD (-32767 : Int)) v :=
  ConvSpec.specII_of_mem (by decide) (by decide) hlo hhi fun _ _ => by omega

theorem put_NC_SHORT_short_ok (R : Rounding) (fill : Option Int) (cur : Int) (v : Int) (hlo : (-32768 : Int) ≤ v) (hhi : v ≤ (32767 : Int)) :
    put_NC_SHORT_short R fill cur v = ConvSpec.specII (-32768 : Int) (32767 : Int) (fill.getD (-32767 : Int)) v :=
  ConvSpec.specII_of_mem (by decide) (by decide) hlo hhi fun _ _ => rfl

theorem put_NC_SHORT_int_ok (R : Rounding) (fill : Option Int) (cur : Int) (v : Int) (hlo : (-2147483648 : Int) ≤ v) (hhi : v ≤ (2147483647 : Int)) :
    put_NC_SHORT_int R fill cur v = ConvSpec.specII (-32768 : Int) (32767 : Int) (fill.getD (-32767 : Int)) v :=
  ConvSpec.specII_of_or (ConvSpec.smod_id rfl (by decide) (by decide))

theorem put_NC_SHORT_long_ok (R : Rounding) (fill : Option Int) (cur : Int) (v : Int) (hlo : (-9223372036854775808 : Int) ≤ v) (hhi : v ≤ (9223372036854775807 : Int)) :
    put_NC_SHORT_long R fill cur v = ConvSpec.specII (-32768 : Int) (32767 : Int) (fill.getD (-32767 : Int)) v :=
  ConvSpec.specII_of_or (ConvSpec.smod_id rfl (by decide) (by decide))

theorem put_NC_SHORT_longlong_ok (R : Rounding) (fill : Option Int) (cur : Int) (v : Int) (hlo : (-9223372036854775808 : Int) ≤ v) (hhi : v ≤ (9223372036854775807 : Int)) :
    put_NC_SHORT_longlong R fill cur v = ConvSpec.specII (-32768 : Int) (32767 : Int) (fill.getD (-32767 : Int)) v :=
  ConvSpec.specII_of_or (ConvSpec.smod_id rfl (by decide) (by decide))

theorem put_NC_SHORT_ushort_ok (R : Rounding) (fill : Option Int) (cur : Int) (v : Int) (hlo : (0 : Int) ≤ v) (hhi : v ≤ (65535 : Int)) :
    put_NC_SHORT_ushort R fill cur v = ConvSpec.specII (-32768 : Int) (32767 : Int) (fill.getD (-32767 : Int)) v :=
  ConvSpec.specII_of_gt (by decide) hlo (ConvSpec.smod_id rfl (by decide) (by decide))

theorem put_NC_SHORT_uint_ok (R : Rounding) (fill : Option Int) (cur : Int) (v : Int) (hlo : (0 : Int) ≤ v) (hhi : v ≤ (4294967295 : Int)) :
    put_NC_SHORT_uint R fill cur v = ConvSpec.specII (-32768 : Int) (32767 : Int) (fill.getD (-32767 : Int)) v :=
  ConvSpec.specII_of_gt (by decide) hlo (ConvSpec.smod_id rfl (by decide) (by decide))

theorem put_NC_SHORT_ulonglong_ok (R : Rounding) (fill : Option Int) (cur : Int) (v : Int) (hlo : (0 : Int) ≤ v) (hhi : v ≤ (18446744073709551615 : Int)) :
    put_NC_SHORT_ulonglong R fill cur v = ConvSpec.specII (-32768 : Int) (32767 : Int) (fill.getD (-32767 : Int)) v :=
  ConvSpec.specII_of_gt (by decide) hlo (ConvSpec.smod_id rfl (by decide) (by decide))

theorem put_NC_SHORT_float_ok (R : Rounding) (fill : Option Int) (cur : Int) (v : FV) (hrange : FV.inRange ((340282346638528859811704183484516925440 : Int) : Rat) v) :
    put_NC_SHORT_float R fill cur v = ConvSpec.specFI (-32768 : Int) (32767 : Int) (fill.getD (-32767 : Int)) v :=
  ConvSpec.specFI_of_guard _ _ _ _

theorem put_NC_SHORT_double_ok (R : Rounding) (fill : Option Int) (cur : Int) (v : FV) (hrange : FV.inRange ((179769313486231570814527423731704356798070567525844996598917476803157260780028538760589558632766878171540458953514382464234321326889464182768467546703537516986049910576551282076245490090389328944075868508455133942304583236903222948165808559332123348274797826204144723168738177180919299881250404026184124858368 : Int) : Rat) v) :
    put_NC_SHORT_double R fill cur v = ConvSpec.specFI (-32768 : Int) (32767 : Int) (fill.getD (-32767 : Int)) v :=
  ConvSpec.specFI_of_guard _ _ _ _

theorem get_NC_USHORT_schar_ok (R : Rounding) (v : Int) (hlo : (0 : Int) ≤ v) (hhi : v ≤ (65535 : Int)) :
    get_NC_USHORT_schar R v = ConvSpec.specII (-128 : Int) (127 : Int) (-127 : Int) v :=
  ConvSpec.specII_of_gt (by decide) hlo (ConvSpec.smod_id rfl (by decide) (by decide))

theorem get_NC_USHORT_short_ok (R : Rounding) (v : Int) (hlo : (0 : Int) ≤ v) (hhi : v ≤ (65535 : Int)) :
    get_NC_USHORT_short R v = ConvSpec.specII (-32768 : Int) (32767 : Int) (-32767 : Int) v :=
  ConvSpec.specII_of_gt (by decide) hlo (ConvSpec.smod_id rfl (by decide) (by decide))

theorem get_NC_USHORT_int_ok (R : Rounding) (v : Int) (hlo : (0 : Int) ≤ v) (hhi : v ≤ (65535 : Int)) :
    get_NC_USHORT_int R v = ConvSpec.specII (-2147483648 : Int) (2147483647 : Int) (-2147483647 : Int) v :=
  ConvSpec.specII_of_mem (by decide) (by decide) hlo hhi fun _ _ => rfl

theorem get_NC_USHORT_long_ok (R : Rounding) (v : Int) (hlo : (0 : Int) ≤ v) (hhi : v ≤ (65535 : Int)) :
    get_NC_USHORT_long R v = ConvSpec.specII (-9223372036854775808 : Int) (9223372036854775807 : Int) (-2147483647 : Int) v :=
  ConvSpec.specII_of_mem (by decide) (by decide) hlo hhi fun _ _ => rfl

theorem get_NC_USHORT_longlong_ok (R : Rounding) (v : Int) (hlo : (0 : Int) ≤ v) (hhi : v ≤ (65535 : Int)) :
    get_NC_USHORT_longlong R v = ConvSpec.specII (-9223372036854775808 : Int) (9223372036854775807 : Int) (-9223372036854775806 : Int) v :=
  ConvSpec.specII_of_mem (by decide) (by decide) hlo hhi fun _ _ => rfl

theorem get_NC_USHORT_ushort_ok (R : Rounding) (v : Int) (hlo : (0 : Int) ≤ v) (hhi : v ≤ (65535 : Int)) :
    get_NC_USHORT_ushort R v = ConvSpec.specII (0 : Int) (65535 : Int) (65535 : Int) v :=
  ConvSpec.specII_of_mem (by decide) (by decide) hlo hhi fun _ _ => rfl

theorem get_NC_USHORT_uchar_ok (R : Rounding) (v : Int) (hlo : (0 : Int) ≤ v) (hhi : v ≤ (65535 : Int)) :
    get_NC_USHORT_uchar R v = ConvSpec.specII (0 : Int) (255 : Int) (255 : Int) v :=
  ConvSpec.specII_of_gt (by decide) hlo (ConvSpec.umod_id (by decide) (by decide))

theorem get_NC_USHORT_uint_ok (R : Rounding) (v : Int) (hlo : (0 : Int) ≤ v) (hhi : v ≤ (65535 : Int)) :
    get_NC_USHORT_uint R v = ConvSpec.specII (0 : Int) (4294967295 : Int) (4294967295 : Int) v :=
  ConvSpec.specII_of_mem (by decide) (by decide) hlo hhi fun _ _ => rfl

theorem get_NC_USHORT_ulonglong_ok (R : Rounding) (v : Int) (hlo : (0 : Int) ≤ v) (hhi : v ≤ (65535 : Int)) :
    get_NC_USHORT_ulonglong R v = ConvSpec.specII (0 : Int) (18446744073709551615 : Int) (18446744073709551614 : Int) v :=
  ConvSpec.specII_of_mem (by decide) (by decide) hlo hhi fun _ _ => rfl

theorem get_NC_USHORT_float_ok (R : Rounding) (v : Int) (hlo : (0 : Int) ≤ v) (hhi : v ≤ (65535 : Int)) :
    get_NC_USHORT_float R v = ConvSpec.specIF32 R v := rfl

theorem get_NC_USHORT_double_ok (R : Rounding) (v : Int) (hlo : (0 : Int) ≤ v) (hhi : v ≤ (65535 : Int)) :
    get_NC_USHORT_double R v = ConvSpec.specIF64 R v := rfl

theorem put_NC_USHORT_schar_ok (R : Rounding) (fill : Option Int) (cur : Int) (v : Int) (hlo : (-128 : Int) ≤ v) (hhi : v ≤ (127 : Int)) :
    put_NC_USHORT_schar R fill cur v = ConvSpec.specII (0 : Int) (65535 : Int) (fill.getD cur) v := by
  unfold put_NC_USHORT_schar
  split
  next h1 =>
    exact (ConvSpec.specII_out _ (by omega)).symm
  next h1 =>
    split
    next h2 =>
      exact ConvSpec.specII_of_mem (Int.le_refl _) (by decide) (by omega) hhi fun _ _ => by omega
    next h2 =>
      exact ConvSpec.specII_of_mem (Int.le_refl _) (by decide) (by omega) hhi fun _ _ => by omega

theorem put_NC_USHORT_uchar_ok (R : Rounding) (fill : Option Int) (cur : Int) (v : Int) (hlo : (0 : Int) ≤ v) (hhi : v ≤ (255 : Int)) :
    put_NC_USHORT_uchar R fill cur v = ConvSpec.specII (0 : Int) (65535 : Int) (fill.getD (65535 : Int)) v :=
  ConvSpec.specII_of_mem (by decide) (by decide) hlo hhi fun _ _ => by omega

theorem put_NC_USHORT_short_ok (R : Rounding) (fill : Option Int) (cur : Int) (v : Int) (hlo : (-32768 : Int) ≤ v) (hhi : v ≤ (32767 : Int)) :
    put_NC_USHORT_short R fill cur v = ConvSpec.specII (0 : Int) (65535 : Int) (fill.getD (65535 : Int)) v :=
  ConvSpec.specII_of_lt (by decide) hhi (ConvSpec.umod_id (by decide) (by decide))

theorem put_NC_USHORT_int_ok (R : Rounding) (fill : Option Int) (cur : Int) (v : Int) (hlo : (-2147483648 : Int) ≤ v) (hhi : v ≤ (2147483647 : Int)) :
    put_NC_USHORT_int R fill cur v = ConvSpec.specII (0 : Int) (65535 : Int) (fill.getD (65535 : Int)) v :=
  ConvSpec.specII_of_gt_lt (ConvSpec.umod_id (by decide) (by decide))

theorem put_NC_USHORT_long_ok (R : Rounding) (fill : Option Int) (cur : Int) (v : Int) (hlo : (-9223372036854775808 : Int) ≤ v) (hhi : v ≤ (9223372036854775807 : Int)) :
    put_NC_USHORT_long R fill cur v = ConvSpec.specII (0 : Int) (65535 : Int) (fill.getD (65535 : Int)) v :=
  ConvSpec.specII_of_gt_lt (ConvSpec.umod_id (by decide) (by decide))

theorem put_NC_USHORT_longlong_ok (R : Rounding) (fill : Option Int) (cur : Int) (v : Int) (hlo : (-9223372036854775808 : Int) ≤ v) (hhi : v ≤ (9223372036854775807 : Int)) :
    put_NC_USHORT_longlong R fill cur v = ConvSpec.specII (0 : Int) (65535 : Int) (fill.getD (65535 : Int)) v :=
  ConvSpec.specII_of_gt_lt (ConvSpec.umod_id (by decide) (by decide))

theorem put_NC_USHORT_ushort_ok (R : Rounding) (fill : Option Int) (cur : Int) (v : Int) (hlo : (0 : Int) ≤ v) (hhi : v ≤ (65535 : Int)) :
    put_NC_USHORT_ushort R fill cur v = ConvSpec.specII (0 : Int) (65535 : Int) (fill.getD (65535 : Int)) v :=
  ConvSpec.specII_of_mem (by decide) (by decide) hlo hhi fun _ _ => rfl

theorem put_NC_USHORT_uint_ok (R : Rounding) (fill : Option Int) (cur : Int) (v : Int) (hlo : (0 : Int) ≤ v) (hhi : v ≤ (4294967295 : Int)) :
    put_NC_USHORT_uint R fill cur v = ConvSpec.specII (0 : Int) (65535 : Int) (fill.getD (65535 : Int)) v :=
  ConvSpec.specII_of_gt (by decide) hlo (ConvSpec.umod_id (by decide) (by decide))

theorem put_NC_USHORT_ulonglong_ok (R : Rounding) (fill : Option Int) (cur : Int) (v : Int) (hlo : (0 : Int) ≤ v) (hhi : v ≤ (18446744073709551615 : Int)) :
    put_NC_USHORT_ulonglong R fill cur v = ConvSpec.specII (0 : Int) (65535 : Int) (fill.getD (65535 : Int)) v :=
  ConvSpec.specII_of_gt (by decide) hlo (ConvSpec.umod_id (by decide) (by decide))

theorem put_NC_USHORT_float_ok (R : Rounding) (fill : Option Int) (cur : Int) (v : FV) (hrange : FV.inRange ((340282346638528859811704183484516925440 : Int) : Rat) v) :
    put_NC_USHORT_float R fill cur v = ConvSpec.specFI (0 : Int) (65535 : Int) (fill.getD (65535 : Int)) v :=
  ConvSpec.specFI_of_guard _ _ _ _

theorem put_NC_USHORT_double_ok (R : Rounding) (fill : Option Int) (cur : Int) (v : FV) (hrange : FV.inRange ((179769313486231570814527423731704356798070567525844996598917476803157260780028538760589558632766878171540458953514382464234321326889464182768467546703537516986049910576551282076245490090389328944075868508455133942304583236903222948165808559332123348274797826204144723168738177180919299881250404026184124858368 : Int) : Rat) v) :
    put_NC_USHORT_double R fill cur v = ConvSpec.specFI (0 : Int) (65535 : Int) (fill.getD (65535 : Int)) v :=
  ConvSpec.specFI_of_guard _ _ _ _

theorem get_NC_INT_schar_ok (R : Rounding) (v : Int) (hlo : (-2147483648 : Int) ≤ v) (hhi : v ≤ (2147483647 : Int)) :
    get_NC_INT_schar R v = ConvSpec.specII (-128 : Int) (127 : Int) (-127 : Int) v :=
  ConvSpec.specII_of_or (ConvSpec.smod_id rfl (by decide) (by decide))

theorem get_NC_INT_short_ok (R : Rounding) (v : Int) (hlo : (-2147483648 : Int) ≤ v) (hhi : v ≤ (2147483647 : Int)) :
    get_NC_INT_short R v = ConvSpec.specII (-32768 : Int) (32767 : Int) (-32767 : Int) v :=
  ConvSpec.specII_of_or (ConvSpec.smod_id rfl (by decide) (by decide))

theorem get_NC_INT_long_ok (R : Rounding) (v : Int) (hlo : (-2147483648 : Int) ≤ v) (hhi : v ≤ (2147483647 : Int)) :
    get_NC_INT_long R v = ConvSpec.specII (-9223372036854775808 : Int) (9223372036854775807 : Int) (-2147483647 : Int) v :=
  ConvSpec.specII_of_mem (by decide) (by decide) hlo hhi fun _ _ => rfl

theorem get_NC_INT_longlong_ok (R : Rounding) (v : Int) (hlo : (-2147483648 : Int) ≤ v) (hhi : v ≤ (2147483647 : Int)) :
    get_NC_INT_longlong R v = ConvSpec.specII (-9223372036854775808 : Int) (9223372036854775807 : Int) (-9223372036854775806 : Int) v :=
  ConvSpec.specII_of_mem (by decide) (by decide) hlo hhi fun _ _ => rfl

theorem get_NC_INT_ushort_ok (R : Rounding) (v : Int) (hlo : (-2147483648 : Int) ≤ v) (hhi : v ≤ (2147483647 : Int)) :
    get_NC_INT_ushort R v = ConvSpec.specII (0 : Int) (65535 : Int) (65535 : Int) v :=
  ConvSpec.specII_of_gt_lt (ConvSpec.umod_id (by decide) (by decide))

theorem get_NC_INT_uchar_ok (R : Rounding) (v : Int) (hlo : (-2147483648 : Int) ≤ v) (hhi : v ≤ (2147483647 : Int)) :
    get_NC_INT_uchar R v = ConvSpec.specII (0 : Int) (255 : Int) (255 : Int) v :=
  ConvSpec.specII_of_gt_lt (ConvSpec.umod_id (by decide) (by decide))

theorem get_NC_INT_uint_ok (R : Rounding) (v : Int) (hlo : (-2147483648 : Int) ≤ v) (hhi : v ≤ (2147483647 : Int)) :
    get_NC_INT_uint R v = ConvSpec.specII (0 : Int) (4294967295 : Int) (4294967295 : Int) v :=
  ConvSpec.specII_of_lt (by decide) hhi (ConvSpec.umod_id (by decide) (by decide))

theorem get_NC_INT_ulonglong_ok (R : Rounding) (v : Int) (hlo : (-2147483648 : Int) ≤ v) (hhi : v ≤ (2147483647 : Int)) :
    get_NC_INT_ulonglong R v = ConvSpec.specII (0 : Int) (18446744073709551615 : Int) (18446744073709551614 : Int) v :=
  ConvSpec.specII_of_lt (by decide) hhi (ConvSpec.umod_id (by decide) (by decide))

theorem get_NC_INT_float_ok (R : Rounding) (v : Int) (hlo : (-2147483648 : Int) ≤ v) (hhi : v ≤ (2147483647 : Int)) :
    get_NC_INT_float R v = ConvSpec.specIF32 R v := rfl

theorem get_NC_INT_double_ok (R : Rounding) (v : Int) (hlo : (-2147483648 : Int) ≤ v) (hhi : v ≤ (2147483647 : Int)) :
    get_NC_INT_double R v = ConvSpec.specIF64 R v := rfl

theorem put_NC_INT_schar_ok (R : Rounding) (fill : Option Int) (cur : Int) (v : Int) (hlo : (-128 : Int) ≤ v) (hhi : v ≤ (127 : Int)) :
    put_NC_INT_schar R fill cur v = ConvSpec.specII (-2147483648 : Int) (2147483647 : Int) (fill.getD (-2147483647 : Int)) v := by
  unfold put_NC_INT_schar
  split
  next h1 =>
    exact ConvSpec.specII_of_mem (by decide) (by decide) hlo hhi fun _ _ => by omega
  next h1 =>
    exact ConvSpec.specII_of_mem (by decide) (by decide) hlo hhi fun _ _ => by omega

theorem put_NC_INT_uchar_ok (R : Rounding) (fill : Option Int) (cur : Int) (v : Int) (hlo : (0 : Int) ≤ v) (hhi : v ≤ (255 : Int)) :
    put_NC_INT_uchar R fill cur v = ConvSpec.specII (-2147483648 : Int) (2147483647 : Int) (fill.getD (-2147483647 : Int)) v :=
  ConvSpec.specII_of_mem (by decide) (by decide) hlo hhi fun _ _ => by omega

theorem put_NC_INT_short_ok (R : Rounding) (fill : Option Int) (cur : Int) (v : Int) (hlo : (-32768 : Int) ≤ v) (hhi : v ≤ (32767 : Int)) :
    put_NC_INT_short R fill cur v = ConvSpec.specII (-2147483648 : Int) (2147483647 : Int) (fill.getD (-2147483647 : Int)) v :=
  ConvSpec.specII_of_mem (by decide) (by decide) hlo hhi fun _ _ => rfl

theorem put_NC_INT_long_ok (R : Rounding) (fill : Option Int) (cur : Int) (v : Int) (hlo : (-9223372036854775808 : Int) ≤ v) (hhi : v ≤ (9223372036854775807 : Int)) :
    put_NC_INT_long R fill cur v = ConvSpec.specII (-2147483648 : Int) (2147483647 : Int) (fill.getD (-2147483647 : Int)) v :=
  ConvSpec.specII_of_or (ConvSpec.smod_id rfl (by decide) (by decide))

theorem put_NC_INT_longlong_ok (R : Rounding) (fill : Option Int) (cur : Int) (v : Int) (hlo : (-9223372036854775808 : Int) ≤ v) (hhi : v ≤ (9223372036854775807 : Int)) :
    put_NC_INT_longlong R fill cur v = ConvSpec.specII (-2147483648 : Int) (2147483647 : Int) (fill.getD (-2147483647 : Int)) v :=
  ConvSpec.specII_of_or (ConvSpec.smod_id rfl (by decide) (by decide))

theorem put_NC_INT_ushort_ok (R : Rounding) (fill : Option Int) (cur : Int) (v : Int) (hlo : (0 : Int) ≤ v) (hhi : v ≤ (65535 : Int)) :
    put_NC_INT_ushort R fill cur v = ConvSpec.specII (-2147483648 : Int) (2147483647 : Int) (fill.getD (-2147483647 : Int)) v :=
  ConvSpec.specII_of_mem (by decide) (by decide) hlo hhi fun _ _ => rfl

theorem put_NC_INT_uint_ok (R : Rounding) (fill : Option Int) (cur : Int) (v : Int) (hlo : (0 : Int) ≤ v) (hhi : v ≤ (4294967295 : Int)) :
    put_NC_INT_uint R fill cur v = ConvSpec.specII (-2147483648 : Int) (2147483647 : Int) (fill.getD (-2147483647 : Int)) v :=
  ConvSpec.specII_of_gt (by decide) hlo (ConvSpec.smod_id rfl (by decide) (by decide))

theorem put_NC_INT_ulonglong_ok (R : Rounding) (fill : Option Int) (cur : Int) (v : Int) (hlo : (0 : Int) ≤ v) (hhi : v ≤ (18446744073709551615 : Int)) :
    put_NC_INT_ulonglong R fill cur v = ConvSpec.specII (-2147483648 : Int) (2147483647 : Int) (fill.getD (-2147483647 : Int)) v :=
  ConvSpec.specII_of_gt (by decide) hlo (ConvSpec.smod_id rfl (by decide) (by decide))

theorem put_NC_INT_float_ok (R : Rounding) (fill : Option Int) (cur : Int) (v : FV) (hrange : FV.inRange ((340282346638528859811704183484516925440 : Int) : Rat) v) :
    put_NC_INT_float R fill cur v = ConvSpec.specFI (-2147483648 : Int) (2147483647 : Int) (fill.getD (-2147483647 : Int)) v :=
  ConvSpec.specFI_of_guard _ _ _ _

theorem put_NC_INT_double_ok (R : Rounding) (fill : Option Int) (cur : Int) (v : FV) (hrange : FV.inRange ((179769313486231570814527423731704356798070567525844996598917476803157260780028538760589558632766878171540458953514382464234321326889464182768467546703537516986049910576551282076245490090389328944075868508455133942304583236903222948165808559332123348274797826204144723168738177180919299881250404026184124858368 : Int) : Rat) v) :
    put_NC_INT_double R fill cur v = ConvSpec.specFI (-2147483648 : Int) (2147483647 : Int) (fill.getD (-2147483647 : Int)) v :=
  ConvSpec.specFI_of_guard _ _ _ _

theorem get_NC_UINT_schar_ok (R : Rounding) (v : Int) (hlo : (0 : Int) ≤ v) (hhi : v ≤ (4294967295 : Int)) :
    get_NC_UINT_schar R v = ConvSpec.specII (-128 : Int) (127 : Int) (-127 : Int) v :=
  ConvSpec.specII_of_gt (by decide) hlo (ConvSpec.smod_id rfl (by decide) (by decide))

theorem get_NC_UINT_short_ok (R : Rounding) (v : Int) (hlo : (0 : Int) ≤ v) (hhi : v ≤ (4294967295 : Int)) :
    get_NC_UINT_short R v = ConvSpec.specII (-32768 : Int) (32767 : Int) (-32767 : Int) v :=
  ConvSpec.specII_of_gt (by decide) hlo (ConvSpec.smod_id rfl (by decide) (by decide))

theorem get_NC_UINT_int_ok (R : Rounding) (v : Int) (hlo : (0 : Int) ≤ v) (hhi : v ≤ (4294967295 : Int)) :
    get_NC_UINT_int R v = ConvSpec.specII (-2147483648 : Int) (2147483647 : Int) (-2147483647 : Int) v :=
  ConvSpec.specII_of_gt (by decide) hlo (ConvSpec.smod_id rfl (by decide) (by decide))

theorem get_NC_UINT_long_ok (R : Rounding) (v : Int) (hlo : (0 : Int) ≤ v) (hhi : v ≤ (4294967295 : Int)) :
    get_NC_UINT_long R v = ConvSpec.specII (-9223372036854775808 : Int) (9223372036854775807 : Int) (-2147483647 : Int) v :=
  ConvSpec.specII_of_mem (by decide) (by decide) hlo hhi fun _ _ => rfl

theorem get_NC_UINT_longlong_ok (R : Rounding) (v : Int) (hlo : (0 : Int) ≤ v) (hhi : v ≤ (4294967295 : Int)) :
    get_NC_UINT_longlong R v = ConvSpec.specII (-9223372036854775808 : Int) (9223372036854775807 : Int) (-9223372036854775806 : Int) v :=
  ConvSpec.specII_of_mem (by decide) (by decide) hlo hhi fun _ _ => rfl

theorem get_NC_UINT_ushort_ok (R : Rounding) (v : Int) (hlo : (0 : Int) ≤ v) (hhi : v ≤ (4294967295 : Int)) :
    get_NC_UINT_ushort R v = ConvSpec.specII (0 : Int) (65535 : Int) (65535 : Int) v :=
  ConvSpec.specII_of_gt (by decide) hlo (ConvSpec.umod_id (by decide) (by decide))

theorem get_NC_UINT_uchar_ok (R : Rounding) (v : Int) (hlo : (0 : Int) ≤ v) (hhi : v ≤ (4294967295 : Int)) :
    get_NC_UINT_uchar R v = ConvSpec.specII (0 : Int) (255 : Int) (255 : Int) v :=
  ConvSpec.specII_of_gt (by decide) hlo (ConvSpec.umod_id (by decide) (by decide))

theorem get_NC_UINT_ulonglong_ok (R : Rounding) (v : Int) (hlo : (0 : Int) ≤ v) (hhi : v ≤ (4294967295 : Int)) :
    get_NC_UINT_ulonglong R v = ConvSpec.specII (0 : Int) (18446744073709551615 : Int) (18446744073709551614 : Int) v :=
  ConvSpec.specII_of_mem (by decide) (by decide) hlo hhi fun _ _ => rfl

theorem get_NC_UINT_float_ok (R : Rounding) (v : Int) (hlo : (0 : Int) ≤ v) (hhi : v ≤ (4294967295 : Int)) :
    get_NC_UINT_float R v = ConvSpec.specIF32 R v := rfl

theorem get_NC_UINT_double_ok (R : Rounding) (v : Int) (hlo : (0 : Int) ≤ v) (hhi : v ≤ (4294967295 : Int)) :
    get_NC_UINT_double R v = ConvSpec.specIF64 R v := rfl

theorem put_NC_UINT_schar_ok (R : Rounding) (fill : Option Int) (cur : Int) (v : Int) (hlo : (-128 : Int) ≤ v) (hhi : v ≤ (127 : Int)) :
    put_NC_UINT_schar R fill cur v = ConvSpec.specII (0 : Int) (4294967295 : Int) (fill.getD cur) v :=
  ConvSpec.specII_of_lt (by decide) hhi fun _ _ => by omega

theorem put_NC_UINT_uchar_ok (R : Rounding) (fill : Option Int) (cur : Int) (v : Int) (hlo : (0 : Int) ≤ v) (hhi : v ≤ (255 : Int)) :
    put_NC_UINT_uchar R fill cur v = ConvSpec.specII (0 : Int) (4294967295 : Int) (fill.getD (4294967295 : Int)) v :=
  ConvSpec.specII_of_mem (by decide) (by decide) hlo hhi fun _ _ => by omega

theorem put_NC_UINT_short_ok (R : Rounding) (fill : Option Int) (cur : Int) (v : Int) (hlo : (-32768 : Int) ≤ v) (hhi : v ≤ (32767 : Int)) :
    put_NC_UINT_short R fill cur v = ConvSpec.specII (0 : Int) (4294967295 : Int) (fill.getD (4294967295 : Int)) v :=
  ConvSpec.specII_of_lt (by decide) hhi (ConvSpec.umod_id (by decide) (by decide))

theorem put_NC_UINT_int_ok (R : Rounding) (fill : Option Int) (cur : Int) (v : Int) (hlo : (-2147483648 : Int) ≤ v) (hhi : v ≤ (2147483647 : Int)) :
    put_NC_UINT_int R fill cur v = ConvSpec.specII (0 : Int) (4294967295 : Int) (fill.getD (4294967295 : Int)) v :=
  ConvSpec.specII_of_lt (by decide) hhi (ConvSpec.umod_id (by decide) (by decide))

theorem put_NC_UINT_long_ok (R : Rounding) (fill : Option Int) (cur : Int) (v : Int) (hlo : (-9223372036854775808 : Int) ≤ v) (hhi : v ≤ (9223372036854775807 : Int)) :
    put_NC_UINT_long R fill cur v = ConvSpec.specII (0 : Int) (4294967295 : Int) (fill.getD (4294967295 : Int)) v :=
  ConvSpec.specII_of_gt_lt (ConvSpec.umod_id (by decide) (by decide))

theorem put_NC_UINT_longlong_ok (R : Rounding) (fill : Option Int) (cur : Int) (v : Int) (hlo : (-9223372036854775808 : Int) ≤ v) (hhi : v ≤ (9223372036854775807 : Int)) :
    put_NC_UINT_longlong R fill cur v = ConvSpec.specII (0 : Int) (4294967295 : Int) (fill.getD (4294967295 : Int)) v :=
  ConvSpec.specII_of_gt_lt (ConvSpec.umod_id (by decide) (by decide))

theorem put_NC_UINT_ushort_ok (R : Rounding) (fill : Option Int) (cur : Int) (v : Int) (hlo : (0 : Int) ≤ v) (hhi : v ≤ (65535 : Int)) :
    put_NC_UINT_ushort R fill cur v = ConvSpec.specII (0 : Int) (4294967295 : Int) (fill.getD (4294967295 : Int)) v :=
  ConvSpec.specII_of_mem (by decide) (by decide) hlo hhi fun _ _ => rfl

theorem put_NC_UINT_ulonglong_ok (R : Rounding) (fill : Option Int) (cur : Int) (v : Int) (hlo : (0 : Int) ≤ v) (hhi : v ≤ (18446744073709551615 : Int)) :
    put_NC_UINT_ulonglong R fill cur v = ConvSpec.specII (0 : Int) (4294967295 : Int) (fill.getD (4294967295 : Int)) v :=
  ConvSpec.specII_of_gt (by decide) hlo (ConvSpec.umod_id (by decide) (by decide))

theorem put_NC_UINT_float_ok (R : Rounding) (fill : Option Int) (cur : Int) (v : FV) (hrange : FV.inRange ((340282346638528859811704183484516925440 : Int) : Rat) v) :
    put_NC_UINT_float R fill cur v = ConvSpec.specFI (0 : Int) (4294967295 : Int) (fill.getD (4294967295 : Int)) v :=
  ConvSpec.specFI_of_guard _ _ _ _

theorem put_NC_UINT_double_ok (R : Rounding) (fill : Option Int) (cur : Int) (v : FV) (hrange : FV.inRange ((179769313486231570814527423731704356798070567525844996598917476803157260780028538760589558632766878171540458953514382464234321326889464182768467546703537516986049910576551282076245490090389328944075868508455133942304583236903222948165808559332123348274797826204144723168738177180919299881250404026184124858368 : Int) : Rat) v) :
    put_NC_UINT_double R fill cur v = ConvSpec.specFI (0 : Int) (4294967295 : Int) (fill.getD (4294967295 : Int)) v :=
  ConvSpec.specFI_of_guard _ _ _ _

theorem get_NC_FLOAT_schar_ok (R : Rounding) (v : FV) (hrange : FV.inRange ((340282346638528859811704183484516925440 : Int) : Rat) v) :
    get_NC_FLOAT_schar R v = ConvSpec.specFI (-128 : Int) (127 : Int) (-127 : Int) v :=
  ConvSpec.specFI_of_guard _ _ _ _

theorem get_NC_FLOAT_short_ok (R : Rounding) (v : FV) (hrange : FV.inRange ((340282346638528859811704183484516925440 : Int) : Rat) v) :
    get_NC_FLOAT_short R v = ConvSpec.specFI (-32768 : Int) (32767 : Int) (-32767 : Int) v :=
  ConvSpec.specFI_of_guard _ _ _ _

theorem get_NC_FLOAT_int_ok (R : Rounding) (v : FV) (hrange : FV.inRange ((340282346638528859811704183484516925440 : Int) : Rat) v) :
    get_NC_FLOAT_int R v = ConvSpec.specFI (-2147483648 : Int) (2147483647 : Int) (-2147483647 : Int) v :=
  ConvSpec.specFI_of_guard _ _ _ _

/-- full-strength statement (false on the current tree, see the counterexample) -/
def get_NC_FLOAT_long_Statement : Prop := ∀ (R : Rounding) (v : FV) (hrange : FV.inRange ((340282346638528859811704183484516925440 : Int) : Rat) v), get_NC_FLOAT_long R v = ConvSpec.specFI (-9223372036854775808 : Int) (9223372036854775807 : Int) (-2147483647 : Int) v
theorem get_NC_FLOAT_long_partial (R : Rounding) (v : FV) (hrange : FV.inRange ((340282346638528859811704183484516925440 : Int) : Rat) v) (hgap : FV.notInGap ((9223372036854775807 : Int) : Rat) ((9223372036854775808 : Int) : Rat) v) :
    get_NC_FLOAT_long R v = ConvSpec.specFI (-9223372036854775808 : Int) (9223372036854775807 : Int) (-2147483647 : Int) v := by
  unfold get_NC_FLOAT_long
  rw [if_neg (FV.not_feq_of_notInGap (by decide) hgap)]
  exact ConvSpec.specFI_of_guard' _ (by decide) hgap fun _ _ => rfl
/-- known finding F17 -/
theorem get_NC_FLOAT_long_counterexample0 : ¬ get_NC_FLOAT_long_Statement :=
  fun h => absurd (h Rounding.exact (FV.fin ((9223372036854775808 : Int) : Rat)) (by decide)) (by decide)

theorem get_NC_FLOAT_double_ok (R : Rounding) (v : FV) (hrange : FV.inRange ((340282346638528859811704183484516925440 : Int) : Rat) v) :
    get_NC_FLOAT_double R v = ConvSpec.specFFid v := rfl

/-- full-strength statement (false on the current tree, see the counterexample) -/
def get_NC_FLOAT_longlong_Statement : Prop := ∀ (R : Rounding) (v : FV) (hrange : FV.inRange ((340282346638528859811704183484516925440 : Int) : Rat) v), get_NC_FLOAT_longlong R v = ConvSpec.specFI (-9223372036854775808 : Int) (9223372036854775807 : Int) (-9223372036854775806 : Int) v
theorem get_NC_FLOAT_longlong_partial (R : Rounding) (v : FV) (hrange : FV.inRange ((340282346638528859811704183484516925440 : Int) : Rat) v) (hgap : FV.notInGap ((9223372036854775807 : Int) : Rat) ((9223372036854775808 : Int) : Rat) v) :
    get_NC_FLOAT_longlong R v = ConvSpec.specFI (-9223372036854775808 : Int) (9223372036854775807 : Int) (-9223372036854775806 : Int) v := by
  unfold get_NC_FLOAT_longlong
  rw [if_neg (FV.not_feq_of_notInGap (by decide) hgap)]
  exact ConvSpec.specFI_of_feq (by decide) (by decide) (ConvSpec.specFI_of_guard' _ (by decide) hgap fun _ _ => rfl)
/-- known finding F17 -/
theorem get_NC_FLOAT_longlong_counterexample0 : ¬ get_NC_FLOAT_longlong_Statement :=
  fun h => absurd (h Rounding.exact (FV.fin ((9223372036854775808 : Int) : Rat)) (by decide)) (by decide)

theorem get_NC_FLOAT_uchar_ok (R : Rounding) (v : FV) (hrange : FV.inRange ((340282346638528859811704183484516925440 : Int) : Rat) v) :
    get_NC_FLOAT_uchar R v = ConvSpec.specFI (0 : Int) (255 : Int) (255 : Int) v :=
  ConvSpec.specFI_of_guard _ _ _ _

theorem get_NC_FLOAT_ushort_ok (R : Rounding) (v : FV) (hrange : FV.inRange ((340282346638528859811704183484516925440 : Int) : Rat) v) :
    get_NC_FLOAT_ushort R v = ConvSpec.specFI (0 : Int) (65535 : Int) (65535 : Int) v :=
  ConvSpec.specFI_of_guard _ _ _ _

theorem get_NC_FLOAT_uint_ok (R : Rounding) (v : FV) (hrange : FV.inRange ((340282346638528859811704183484516925440 : Int) : Rat) v) :
    get_NC_FLOAT_uint R v = ConvSpec.specFI (0 : Int) (4294967295 : Int) (4294967295 : Int) v :=
  ConvSpec.specFI_of_guard _ _ _ _

/-- full-strength statement (false on the current tree, see the counterexample) -/
def get_NC_FLOAT_ulonglong_Statement : Prop := ∀ (R : Rounding) (v : FV) (hrange : FV.inRange ((340282346638528859811704183484516925440 : Int) : Rat) v), get_NC_FLOAT_ulonglong R v = ConvSpec.specFI (0 : Int) (18446744073709551615 : Int) (18446744073709551614 : Int) v
theorem get_NC_FLOAT_ulonglong_partial (R : Rounding) (v : FV) (hrange : FV.inRange ((340282346638528859811704183484516925440 : Int) : Rat) v) (hgap : FV.notInGap ((18446744073709551615 : Int) : Rat) ((18446744073709551616 : Int) : Rat) v) :
    get_NC_FLOAT_ulonglong R v = ConvSpec.specFI (0 : Int) (18446744073709551615 : Int) (18446744073709551614 : Int) v := by
  unfold get_NC_FLOAT_ulonglong
  rw [if_neg (FV.not_feq_of_notInGap (by decide) hgap)]
  exact ConvSpec.specFI_of_guard' _ (by decide) hgap fun _ _ => rfl
/-- known finding F17 -/
theorem get_NC_FLOAT_ulonglong_counterexample0 : ¬ get_NC_FLOAT_ulonglong_Statement :=
  fun h => absurd (h Rounding.exact (FV.fin ((18446744073709551616 : Int) : Rat)) (by decide)) (by decide)

theorem put_NC_FLOAT_schar_ok (R : Rounding) (fill : Option FV) (cur : FV) (v : Int) (hlo : (-128 : Int) ≤ v) (hhi : v ≤ (127 : Int)) :
    put_NC_FLOAT_schar R fill cur v = ConvSpec.specIF32 R v := rfl

theorem put_NC_FLOAT_short_ok (R : Rounding) (fill : Option FV) (cur : FV) (v : Int) (hlo : (-32768 : Int) ≤ v) (hhi : v ≤ (32767 : Int)) :
    put_NC_FLOAT_short R fill cur v = ConvSpec.specIF32 R v := rfl

theorem put_NC_FLOAT_int_ok (R : Rounding) (fill : Option FV) (cur : FV) (v : Int) (hlo : (-2147483648 : Int) ≤ v) (hhi : v ≤ (2147483647 : Int)) :
    put_NC_FLOAT_int R fill cur v = ConvSpec.specIF32 R v := rfl

theorem put_NC_FLOAT_long_ok (R : Rounding) (fill : Option FV) (cur : FV) (v : Int) (hlo : (-9223372036854775808 : Int) ≤ v) (hhi : v ≤ (9223372036854775807 : Int)) :
    put_NC_FLOAT_long R fill cur v = ConvSpec.specIF32 R v := rfl

theorem put_NC_FLOAT_double_ok (R : Rounding) (fill : Option FV) (cur : FV) (v : FV) (hrange : FV.inRange ((179769313486231570814527423731704356798070567525844996598917476803157260780028538760589558632766878171540458953514382464234321326889464182768467546703537516986049910576551282076245490090389328944075868508455133942304583236903222948165808559332123348274797826204144723168738177180919299881250404026184124858368 : Int) : Rat) v) :
    put_NC_FLOAT_double R fill cur v = ConvSpec.specDF R (fill.getD (FV.fin ((9969209968386869046778552952102584320 : Int) : Rat))) v :=
  ConvSpec.specDF_of_or rfl rfl

theorem put_NC_FLOAT_longlong_ok (R : Rounding) (fill : Option FV) (cur : FV) (v : Int) (hlo : (-9223372036854775808 : Int) ≤ v) (hhi : v ≤ (9223372036854775807 : Int)) :
    put_NC_FLOAT_longlong R fill cur v = ConvSpec.specIF32 R v := rfl

theorem put_NC_FLOAT_uchar_ok (R : Rounding) (fill : Option FV) (cur : FV) (v : Int) (hlo : (0 : Int) ≤ v) (hhi : v ≤ (255 : Int)) :
    put_NC_FLOAT_uchar R fill cur v = ConvSpec.specIF32 R v := rfl

theorem put_NC_FLOAT_ushort_ok (R : Rounding) (fill : Option FV) (cur : FV) (v : Int) (hlo : (0 : Int) ≤ v) (hhi : v ≤ (65535 : Int)) :
    put_NC_FLOAT_ushort R fill cur v = ConvSpec.specIF32 R v := rfl

theorem put_NC_FLOAT_uint_ok (R : Rounding) (fill : Option FV) (cur : FV) (v : Int) (hlo : (0 : Int) ≤ v) (hhi : v ≤ (4294967295 : Int)) :
    put_NC_FLOAT_uint R fill cur v = ConvSpec.specIF32 R v := rfl

theorem put_NC_FLOAT_ulonglong_ok (R : Rounding) (fill : Option FV) (cur : FV) (v : Int) (hlo : (0 : Int) ≤ v) (hhi : v ≤ (18446744073709551615 : Int)) :
    put_NC_FLOAT_ulonglong R fill cur v = ConvSpec.specIF32 R v := rfl

theorem get_NC_DOUBLE_schar_ok (R : Rounding) (v : FV) (hrange : FV.inRange ((179769313486231570814527423731704356798070567525844996598917476803157260780028538760589558632766878171540458953514382464234321326889464182768467546703537516986049910576551282076245490090389328944075868508455133942304583236903222948165808559332123348274797826204144723168738177180919299881250404026184124858368 : Int) : Rat) v) :
    get_NC_DOUBLE_schar R v = ConvSpec.specFI (-128 : Int) (127 : Int) (-127 : Int) v :=
  ConvSpec.specFI_of_guard _ _ _ _

theorem get_NC_DOUBLE_short_ok (R : Rounding) (v : FV) (hrange : FV.inRange ((179769313486231570814527423731704356798070567525844996598917476803157260780028538760589558632766878171540458953514382464234321326889464182768467546703537516986049910576551282076245490090389328944075868508455133942304583236903222948165808559332123348274797826204144723168738177180919299881250404026184124858368 : Int) : Rat) v) :
    get_NC_DOUBLE_short R v = ConvSpec.specFI (-32768 : Int) (32767 : Int) (-32767 : Int) v :=
  ConvSpec.specFI_of_guard _ _ _ _

theorem get_NC_DOUBLE_int_ok (R : Rounding) (v : FV) (hrange : FV.inRange ((179769313486231570814527423731704356798070567525844996598917476803157260780028538760589558632766878171540458953514382464234321326889464182768467546703537516986049910576551282076245490090389328944075868508455133942304583236903222948165808559332123348274797826204144723168738177180919299881250404026184124858368 : Int) : Rat) v) :
    get_NC_DOUBLE_int R v = ConvSpec.specFI (-2147483648 : Int) (2147483647 : Int) (-2147483647 : Int) v :=
  ConvSpec.specFI_of_guard _ _ _ _

/-- full-strength statement (false on the current tree, see the counterexample) -/
def get_NC_DOUBLE_long_Statement : Prop := ∀ (R : Rounding) (v : FV) (hrange : FV.inRange ((179769313486231570814527423731704356798070567525844996598917476803157260780028538760589558632766878171540458953514382464234321326889464182768467546703537516986049910576551282076245490090389328944075868508455133942304583236903222948165808559332123348274797826204144723168738177180919299881250404026184124858368 : Int) : Rat) v), get_NC_DOUBLE_long R v = ConvSpec.specFI (-9223372036854775808 : Int) (9223372036854775807 : Int) (-2147483647 : Int) v
theorem get_NC_DOUBLE_long_partial (R : Rounding) (v : FV) (hrange : FV.inRange ((179769313486231570814527423731704356798070567525844996598917476803157260780028538760589558632766878171540458953514382464234321326889464182768467546703537516986049910576551282076245490090389328944075868508455133942304583236903222948165808559332123348274797826204144723168738177180919299881250404026184124858368 : Int) : Rat) v) (hgap : FV.notInGap ((9223372036854775807 : Int) : Rat) ((9223372036854775808 : Int) : Rat) v) :
    get_NC_DOUBLE_long R v = ConvSpec.specFI (-9223372036854775808 : Int) (9223372036854775807 : Int) (-2147483647 : Int) v := by
  unfold get_NC_DOUBLE_long
  rw [if_neg (FV.not_feq_of_notInGap (by decide) hgap)]
  exact ConvSpec.specFI_of_guard' _ (by decide) hgap fun _ _ => rfl
/-- known finding F17 -/
theorem get_NC_DOUBLE_long_counterexample0 : ¬ get_NC_DOUBLE_long_Statement :=
  fun h => absurd (h Rounding.exact (FV.fin ((9223372036854775808 : Int) : Rat)) (by decide)) (by decide)

/-- full-strength statement (false on the current tree, see the counterexample) -/
def get_NC_DOUBLE_longlong_Statement : Prop := ∀ (R : Rounding) (v : FV) (hrange : FV.inRange ((179769313486231570814527423731704356798070567525844996598917476803157260780028538760589558632766878171540458953514382464234321326889464182768467546703537516986049910576551282076245490090389328944075868508455133942304583236903222948165808559332123348274797826204144723168738177180919299881250404026184124858368 : Int) : Rat) v), get_NC_DOUBLE_longlong R v = ConvSpec.specFI (-9223372036854775808 : Int) (9223372036854775807 : Int) (-9223372036854775806 : Int) v
theorem get_NC_DOUBLE_longlong_partial (R : Rounding) (v : FV) (hrange : FV.inRange ((179769313486231570814527423731704356798070567525844996598917476803157260780028538760589558632766878171540458953514382464234321326889464182768467546703537516986049910576551282076245490090389328944075868508455133942304583236903222948165808559332123348274797826204144723168738177180919299881250404026184124858368 : Int) : Rat) v) (hgap : FV.notInGap ((9223372036854775807 : Int) : Rat) ((9223372036854775808 : Int) : Rat) v) :
    get_NC_DOUBLE_longlong R v = ConvSpec.specFI (-9223372036854775808 : Int) (9223372036854775807 : Int) (-9223372036854775806 : Int) v := by
  unfold get_NC_DOUBLE_longlong
  rw [if_neg (FV.not_feq_of_notInGap (by decide) hgap)]
  exact ConvSpec.specFI_of_feq (by decide) (by decide) (ConvSpec.specFI_of_guard' _ (by decide) hgap fun _ _ => rfl)
/-- known finding F17 -/
theorem get_NC_DOUBLE_longlong_counterexample0 : ¬ get_NC_DOUBLE_longlong_Statement :=
  fun h => absurd (h Rounding.exact (FV.fin ((9223372036854775808 : Int) : Rat)) (by decide)) (by decide)

theorem get_NC_DOUBLE_uchar_ok (R : Rounding) (v : FV) (hrange : FV.inRange ((179769313486231570814527423731704356798070567525844996598917476803157260780028538760589558632766878171540458953514382464234321326889464182768467546703537516986049910576551282076245490090389328944075868508455133942304583236903222948165808559332123348274797826204144723168738177180919299881250404026184124858368 : Int) : Rat) v) :
    get_NC_DOUBLE_uchar R v = ConvSpec.specFI (0 : Int) (255 : Int) (255 : Int) v :=
  ConvSpec.specFI_of_guard _ _ _ _

theorem get_NC_DOUBLE_ushort_ok (R : Rounding) (v : FV) (hrange : FV.inRange ((179769313486231570814527423731704356798070567525844996598917476803157260780028538760589558632766878171540458953514382464234321326889464182768467546703537516986049910576551282076245490090389328944075868508455133942304583236903222948165808559332123348274797826204144723168738177180919299881250404026184124858368 : Int) : Rat) v) :
    get_NC_DOUBLE_ushort R v = ConvSpec.specFI (0 : Int) (65535 : Int) (65535 : Int) v :=
  ConvSpec.specFI_of_guard _ _ _ _

theorem get_NC_DOUBLE_uint_ok (R : Rounding) (v : FV) (hrange : FV.inRange ((179769313486231570814527423731704356798070567525844996598917476803157260780028538760589558632766878171540458953514382464234321326889464182768467546703537516986049910576551282076245490090389328944075868508455133942304583236903222948165808559332123348274797826204144723168738177180919299881250404026184124858368 : Int) : Rat) v) :
    get_NC_DOUBLE_uint R v = ConvSpec.specFI (0 : Int) (4294967295 : Int) (4294967295 : Int) v :=
  ConvSpec.specFI_of_guard _ _ _ _

/-- full-strength statement (false on the current tree, see the counterexample) -/
def get_NC_DOUBLE_ulonglong_Statement : Prop := ∀ (R : Rounding) (v : FV) (hrange : FV.inRange ((179769313486231570814527423731704356798070567525844996598917476803157260780028538760589558632766878171540458953514382464234321326889464182768467546703537516986049910576551282076245490090389328944075868508455133942304583236903222948165808559332123348274797826204144723168738177180919299881250404026184124858368 : Int) : Rat) v), get_NC_DOUBLE_ulonglong R v = ConvSpec.specFI (0 : Int) (18446744073709551615 : Int) (18446744073709551614 : Int) v
theorem get_NC_DOUBLE_ulonglong_partial (R : Rounding) (v : FV) (hrange : FV.inRange ((179769313486231570814527423731704356798070567525844996598917476803157260780028538760589558632766878171540458953514382464234321326889464182768467546703537516986049910576551282076245490090389328944075868508455133942304583236903222948165808559332123348274797826204144723168738177180919299881250404026184124858368 : Int) : Rat) v) (hgap : FV.notInGap ((18446744073709551615 : Int) : Rat) ((18446744073709551616 : Int) : Rat) v) :
    get_NC_DOUBLE_ulonglong R v = ConvSpec.specFI (0 : Int) (18446744073709551615 : Int) (18446744073709551614 : Int) v := by
  unfold get_NC_DOUBLE_ulonglong
  rw [if_neg (FV.not_feq_of_notInGap (by decide) hgap)]
  exact ConvSpec.specFI_of_guard' _ (by decide) hgap fun _ _ => rfl
/-- known finding F17 -/
theorem get_NC_DOUBLE_ulonglong_counterexample0 : ¬ get_NC_DOUBLE_ulonglong_Statement :=
  fun h => absurd (h Rounding.exact (FV.fin ((18446744073709551616 : Int) : Rat)) (by decide)) (by decide)

theorem get_NC_DOUBLE_float_ok (R : Rounding) (v : FV) (hrange : FV.inRange ((179769313486231570814527423731704356798070567525844996598917476803157260780028538760589558632766878171540458953514382464234321326889464182768467546703537516986049910576551282076245490090389328944075868508455133942304583236903222948165808559332123348274797826204144723168738177180919299881250404026184124858368 : Int) : Rat) v) :
    get_NC_DOUBLE_float R v = ConvSpec.specDF R (FV.fin ((9969209968386869046778552952102584320 : Int) : Rat)) v :=
  ConvSpec.specDF_of_gt_lt rfl rfl

theorem put_NC_DOUBLE_schar_ok (R : Rounding) (fill : Option FV) (cur : FV) (v : Int) (hlo : (-128 : Int) ≤ v) (hhi : v ≤ (127 : Int)) :
    put_NC_DOUBLE_schar R fill cur v = ConvSpec.specIF64 R v := rfl

theorem put_NC_DOUBLE_uchar_ok (R : Rounding) (fill : Option FV) (cur : FV) (v : Int) (hlo : (0 : Int) ≤ v) (hhi : v ≤ (255 : Int)) :
    put_NC_DOUBLE_uchar R fill cur v = ConvSpec.specIF64 R v := rfl

theorem put_NC_DOUBLE_short_ok (R : Rounding) (fill : Option FV) (cur : FV) (v : Int) (hlo : (-32768 : Int) ≤ v) (hhi : v ≤ (32767 : Int)) :
    put_NC_DOUBLE_short R fill cur v = ConvSpec.specIF64 R v := rfl

theorem put_NC_DOUBLE_ushort_ok (R : Rounding) (fill : Option FV) (cur : FV) (v : Int) (hlo : (0 : Int) ≤ v) (hhi : v ≤ (65535 : Int)) :
    put_NC_DOUBLE_ushort R fill cur v = ConvSpec.specIF64 R v := rfl

theorem put_NC_DOUBLE_int_ok (R : Rounding) (fill : Option FV) (cur : FV) (v : Int) (hlo : (-2147483648 : Int) ≤ v) (hhi : v ≤ (2147483647 : Int)) :
    put_NC_DOUBLE_int R fill cur v = ConvSpec.specIF64 R v := rfl

theorem put_NC_DOUBLE_long_ok (R : Rounding) (fill : Option FV) (cur : FV) (v : Int) (hlo : (-9223372036854775808 : Int) ≤ v) (hhi : v ≤ (9223372036854775807 : Int)) :
    put_NC_DOUBLE_long R fill cur v = ConvSpec.specIF64 R v := rfl

theorem put_NC_DOUBLE_uint_ok (R : Rounding) (fill : Option FV) (cur : FV) (v : Int) (hlo : (0 : Int) ≤ v) (hhi : v ≤ (4294967295 : Int)) :
    put_NC_DOUBLE_uint R fill cur v = ConvSpec.specIF64 R v := rfl

theorem put_NC_DOUBLE_longlong_ok (R : Rounding) (fill : Option FV) (cur : FV) (v : Int) (hlo : (-9223372036854775808 : Int) ≤ v) (hhi : v ≤ (9223372036854775807 : Int)) :
    put_NC_DOUBLE_longlong R fill cur v = ConvSpec.specIF64 R v := rfl

theorem put_NC_DOUBLE_ulonglong_ok (R : Rounding) (fill : Option FV) (cur : FV) (v : Int) (hlo : (0 : Int) ≤ v) (hhi : v ≤ (18446744073709551615 : Int)) :
    put_NC_DOUBLE_ulonglong R fill cur v = ConvSpec.specIF64 R v := rfl

theorem put_NC_DOUBLE_float_ok (R : Rounding) (fill : Option FV) (cur : FV) (v : FV) (hrange : FV.inRange ((340282346638528859811704183484516925440 : Int) : Rat) v) :
    put_NC_DOUBLE_float R fill cur v = ConvSpec.specFFid v := rfl

theorem get_NC_INT64_schar_ok (R : Rounding) (v : Int) (hlo : (-9223372036854775808 : Int) ≤ v) (hhi : v ≤ (9223372036854775807 : Int)) :
    get_NC_INT64_schar R v = ConvSpec.specII (-128 : Int) (127 : Int) (-127 : Int) v :=
  ConvSpec.specII_of_or (ConvSpec.smod_id rfl (by decide) (by decide))

theorem get_NC_INT64_short_ok (R : Rounding) (v : Int) (hlo : (-9223372036854775808 : Int) ≤ v) (hhi : v ≤ (9223372036854775807 : Int)) :
    get_NC_INT64_short R v = ConvSpec.specII (-32768 : Int) (32767 : Int) (-32767 : Int) v :=
  ConvSpec.specII_of_or (ConvSpec.smod_id rfl (by decide) (by decide))

theorem get_NC_INT64_int_ok (R : Rounding) (v : Int) (hlo : (-9223372036854775808 : Int) ≤ v) (hhi : v ≤ (9223372036854775807 : Int)) :
    get_NC_INT64_int R v = ConvSpec.specII (-2147483648 : Int) (2147483647 : Int) (-2147483647 : Int) v :=
  ConvSpec.specII_of_or (ConvSpec.smod_id rfl (by decide) (by decide))

theorem get_NC_INT64_long_ok (R : Rounding) (v : Int) (hlo : (-9223372036854775808 : Int) ≤ v) (hhi : v ≤ (9223372036854775807 : Int)) :
    get_NC_INT64_long R v = ConvSpec.specII (-9223372036854775808 : Int) (9223372036854775807 : Int) (-2147483647 : Int) v :=
  ConvSpec.specII_of_mem (by decide) (by decide) hlo hhi fun _ _ => rfl

theorem get_NC_INT64_ushort_ok (R : Rounding) (v : Int) (hlo : (-9223372036854775808 : Int) ≤ v) (hhi : v ≤ (9223372036854775807 : Int)) :
    get_NC_INT64_ushort R v = ConvSpec.specII (0 : Int) (65535 : Int) (65535 : Int) v :=
  ConvSpec.specII_of_gt_lt (ConvSpec.umod_id (by decide) (by decide))

theorem get_NC_INT64_uchar_ok (R : Rounding) (v : Int) (hlo : (-9223372036854775808 : Int) ≤ v) (hhi : v ≤ (9223372036854775807 : Int)) :
    get_NC_INT64_uchar R v = ConvSpec.specII (0 : Int) (255 : Int) (255 : Int) v :=
  ConvSpec.specII_of_gt_lt (ConvSpec.umod_id (by decide) (by decide))

theorem get_NC_INT64_uint_ok (R : Rounding) (v : Int) (hlo : (-9223372036854775808 : Int) ≤ v) (hhi : v ≤ (9223372036854775807 : Int)) :
    get_NC_INT64_uint R v = ConvSpec.specII (0 : Int) (4294967295 : Int) (4294967295 : Int) v :=
  ConvSpec.specII_of_gt_lt (ConvSpec.umod_id (by decide) (by decide))

theorem get_NC_INT64_ulonglong_ok (R : Rounding) (v : Int) (hlo : (-9223372036854775808 : Int) ≤ v) (hhi : v ≤ (9223372036854775807 : Int)) :
    get_NC_INT64_ulonglong R v = ConvSpec.specII (0 : Int) (18446744073709551615 : Int) (18446744073709551614 : Int) v :=
  ConvSpec.specII_of_lt (by decide) hhi (ConvSpec.umod_id (by decide) (by decide))

theorem get_NC_INT64_float_ok (R : Rounding) (v : Int) (hlo : (-9223372036854775808 : Int) ≤ v) (hhi : v ≤ (9223372036854775807 : Int)) :
    get_NC_INT64_float R v = ConvSpec.specIF32 R v := rfl

theorem get_NC_INT64_double_ok (R : Rounding) (v : Int) (hlo : (-9223372036854775808 : Int) ≤ v) (hhi : v ≤ (9223372036854775807 : Int)) :
    get_NC_INT64_double R v = ConvSpec.specIF64 R v := rfl

theorem put_NC_INT64_schar_ok (R : Rounding) (fill : Option Int) (cur : Int) (v : Int) (hlo : (-128 : Int) ≤ v) (hhi : v ≤ (127 : Int)) :
    put_NC_INT64_schar R fill cur v = ConvSpec.specII (-9223372036854775808 : Int) (9223372036854775807 : Int) (fill.getD (-9223372036854775806 : Int)) v :=
  ConvSpec.specII_of_mem (by decide) (by decide) hlo hhi fun _ _ => rfl

theorem put_NC_INT64_short_ok (R : Rounding) (fill : Option Int) (cur : Int) (v : Int) (hlo : (-32768 : Int) ≤ v) (hhi : v ≤ (32767 : Int)) :
    put_NC_INT64_short R fill cur v = ConvSpec.specII (-9223372036854775808 : Int) (9223372036854775807 : Int) (fill.getD (-9223372036854775806 : Int)) v :=
  ConvSpec.specII_of_mem (by decide) (by decide) hlo hhi fun _ _ => rfl

theorem put_NC_INT64_int_ok (R : Rounding) (fill : Option Int) (cur : Int) (v : Int) (hlo : (-2147483648 : Int) ≤ v) (hhi : v ≤ (2147483647 : Int)) :
    put_NC_INT64_int R fill cur v = ConvSpec.specII (-9223372036854775808 : Int) (9223372036854775807 : Int) (fill.getD (-9223372036854775806 : Int)) v :=
  ConvSpec.specII_of_mem (by decide) (by decide) hlo hhi fun _ _ => rfl

theorem put_NC_INT64_long_ok (R : Rounding) (fill : Option Int) (cur : Int) (v : Int) (hlo : (-9223372036854775808 : Int) ≤ v) (hhi : v ≤ (9223372036854775807 : Int)) :
    put_NC_INT64_long R fill cur v = ConvSpec.specII (-9223372036854775808 : Int) (9223372036854775807 : Int) (fill.getD (-9223372036854775806 : Int)) v :=
  ConvSpec.specII_of_mem (by decide) (by decide) hlo hhi fun _ _ => rfl

theorem put_NC_INT64_ushort_ok (R : Rounding) (fill : Option Int) (cur : Int) (v : Int) (hlo : (0 : Int) ≤ v) (hhi : v ≤ (65535 : Int)) :
    put_NC_INT64_ushort R fill cur v = ConvSpec.specII (-9223372036854775808 : Int) (9223372036854775807 : Int) (fill.getD (-9223372036854775806 : Int)) v :=
  ConvSpec.specII_of_mem (by decide) (by decide) hlo hhi fun _ _ => rfl

theorem put_NC_INT64_uchar_ok (R : Rounding) (fill : Option Int) (cur : Int) (v : Int) (hlo : (0 : Int) ≤ v) (hhi : v ≤ (255 : Int)) :
    put_NC_INT64_uchar R fill cur v = ConvSpec.specII (-9223372036854775808 : Int) (9223372036854775807 : Int) (fill.getD (-9223372036854775806 : Int)) v :=
  ConvSpec.specII_of_mem (by decide) (by decide) hlo hhi fun _ _ => rfl

theorem put_NC_INT64_uint_ok (R : Rounding) (fill : Option Int) (cur : Int) (v : Int) (hlo : (0 : Int) ≤ v) (hhi : v ≤ (4294967295 : Int)) :
    put_NC_INT64_uint R fill cur v = ConvSpec.specII (-9223372036854775808 : Int) (9223372036854775807 : Int) (fill.getD (-9223372036854775806 : Int)) v :=
  ConvSpec.specII_of_mem (by decide) (by decide) hlo hhi fun _ _ => rfl

theorem put_NC_INT64_ulonglong_ok (R : Rounding) (fill : Option Int) (cur : Int) (v : Int) (hlo : (0 : Int) ≤ v) (hhi : v ≤ (18446744073709551615 : Int)) :
    put_NC_INT64_ulonglong R fill cur v = ConvSpec.specII (-9223372036854775808 : Int) (9223372036854775807 : Int) (fill.getD (-9223372036854775806 : Int)) v :=
  ConvSpec.specII_of_gt (by decide) hlo (ConvSpec.smod_id rfl (by decide) (by decide))

/-- full-strength statement (false on the current tree, see the counterexample) -/
def put_NC_INT64_float_Statement : Prop := ∀ (R : Rounding) (fill : Option Int) (cur : Int) (v : FV) (hrange : FV.inRange ((340282346638528859811704183484516925440 : Int) : Rat) v), put_NC_INT64_float R fill cur v = ConvSpec.specFI (-9223372036854775808 : Int) (9223372036854775807 : Int) (fill.getD (-9223372036854775806 : Int)) v
theorem put_NC_INT64_float_partial (R : Rounding) (fill : Option Int) (cur : Int) (v : FV) (hrange : FV.inRange ((340282346638528859811704183484516925440 : Int) : Rat) v) (hgap : FV.notInGap ((9223372036854775807 : Int) : Rat) ((9223372036854775808 : Int) : Rat) v) :
    put_NC_INT64_float R fill cur v = ConvSpec.specFI (-9223372036854775808 : Int) (9223372036854775807 : Int) (fill.getD (-9223372036854775806 : Int)) v :=
  ConvSpec.specFI_of_guard' _ (by decide) hgap fun _ _ => rfl
/-- known finding F17 -/
theorem put_NC_INT64_float_counterexample0 : ¬ put_NC_INT64_float_Statement :=
  fun h => absurd (h Rounding.exact none 0 (FV.fin ((9223372036854775808 : Int) : Rat)) (by decide)) (by decide)

/-- full-strength statement (false on the current tree, see the counterexample) -/
def put_NC_INT64_double_Statement : Prop := ∀ (R : Rounding) (fill : Option Int) (cur : Int) (v : FV) (hrange : FV.inRange ((179769313486231570814527423731704356798070567525844996598917476803157260780028538760589558632766878171540458953514382464234321326889464182768467546703537516986049910576551282076245490090389328944075868508455133942304583236903222948165808559332123348274797826204144723168738177180919299881250404026184124858368 : Int) : Rat) v), put_NC_INT64_double R fill cur v = ConvSpec.specFI (-9223372036854775808 : Int) (9223372036854775807 : Int) (fill.getD (-9223372036854775806 : Int)) v
theorem put_NC_INT64_double_partial (R : Rounding) (fill : Option Int) (cur : Int) (v : FV) (hrange : FV.inRange ((179769313486231570814527423731704356798070567525844996598917476803157260780028538760589558632766878171540458953514382464234321326889464182768467546703537516986049910576551282076245490090389328944075868508455133942304583236903222948165808559332123348274797826204144723168738177180919299881250404026184124858368 : Int) : Rat) v) (hgap : FV.notInGap ((9223372036854775807 : Int) : Rat) ((9223372036854775808 : Int) : Rat) v) :
    put_NC_INT64_double R fill cur v = ConvSpec.specFI (-9223372036854775808 : Int) (9223372036854775807 : Int) (fill.getD (-9223372036854775806 : Int)) v :=
  ConvSpec.specFI_of_guard' _ (by decide) hgap fun _ _ => rfl
/-- known finding F17 -/
theorem put_NC_INT64_double_counterexample0 : ¬ put_NC_INT64_double_Statement :=
  fun h => absurd (h Rounding.exact none 0 (FV.fin ((9223372036854775808 : Int) : Rat)) (by decide)) (by decide)

theorem get_NC_UINT64_schar_ok (R : Rounding) (v : Int) (hlo : (0 : Int) ≤ v) (hhi : v ≤ (18446744073709551615 : Int)) :
    get_NC_UINT64_schar R v = ConvSpec.specII (-128 : Int) (127 : Int) (-127 : Int) v :=
  ConvSpec.specII_of_gt (by decide) hlo (ConvSpec.smod_id rfl (by decide) (by decide))

theorem get_NC_UINT64_short_ok (R : Rounding) (v : Int) (hlo : (0 : Int) ≤ v) (hhi : v ≤ (18446744073709551615 : Int)) :
    get_NC_UINT64_short R v = ConvSpec.specII (-32768 : Int) (32767 : Int) (-32767 : Int) v :=
  ConvSpec.specII_of_gt (by decide) hlo (ConvSpec.smod_id rfl (by decide) (by decide))

theorem get_NC_UINT64_int_ok (R : Rounding) (v : Int) (hlo : (0 : Int) ≤ v) (hhi : v ≤ (18446744073709551615 : Int)) :
    get_NC_UINT64_int R v = ConvSpec.specII (-2147483648 : Int) (2147483647 : Int) (-2147483647 : Int) v :=
  ConvSpec.specII_of_gt (by decide) hlo (ConvSpec.smod_id rfl (by decide) (by decide))

theorem get_NC_UINT64_long_ok (R : Rounding) (v : Int) (hlo : (0 : Int) ≤ v) (hhi : v ≤ (18446744073709551615 : Int)) :
    get_NC_UINT64_long R v = ConvSpec.specII (-9223372036854775808 : Int) (9223372036854775807 : Int) (-2147483647 : Int) v :=
  ConvSpec.specII_of_gt (by decide) hlo (ConvSpec.smod_id rfl (by decide) (by decide))

theorem get_NC_UINT64_longlong_ok (R : Rounding) (v : Int) (hlo : (0 : Int) ≤ v) (hhi : v ≤ (18446744073709551615 : Int)) :
    get_NC_UINT64_longlong R v = ConvSpec.specII (-9223372036854775808 : Int) (9223372036854775807 : Int) (-9223372036854775806 : Int) v :=
  ConvSpec.specII_of_gt (by decide) hlo (ConvSpec.smod_id rfl (by decide) (by decide))

theorem get_NC_UINT64_ushort_ok (R : Rounding) (v : Int) (hlo : (0 : Int) ≤ v) (hhi : v ≤ (18446744073709551615 : Int)) :
    get_NC_UINT64_ushort R v = ConvSpec.specII (0 : Int) (65535 : Int) (65535 : Int) v :=
  ConvSpec.specII_of_gt (by decide) hlo (ConvSpec.umod_id (by decide) (by decide))

theorem get_NC_UINT64_uchar_ok (R : Rounding) (v : Int) (hlo : (0 : Int) ≤ v) (hhi : v ≤ (18446744073709551615 : Int)) :
    get_NC_UINT64_uchar R v = ConvSpec.specII (0 : Int) (255 : Int) (255 : Int) v :=
  ConvSpec.specII_of_gt (by decide) hlo (ConvSpec.umod_id (by decide) (by decide))

theorem get_NC_UINT64_uint_ok (R : Rounding) (v : Int) (hlo : (0 : Int) ≤ v) (hhi : v ≤ (18446744073709551615 : Int)) :
    get_NC_UINT64_uint R v = ConvSpec.specII (0 : Int) (4294967295 : Int) (4294967295 : Int) v :=
  ConvSpec.specII_of_gt (by decide) hlo (ConvSpec.umod_id (by decide) (by decide))

theorem get_NC_UINT64_float_ok (R : Rounding) (v : Int) (hlo : (0 : Int) ≤ v) (hhi : v ≤ (18446744073709551615 : Int)) :
    get_NC_UINT64_float R v = ConvSpec.specIF32 R v := rfl

theorem get_NC_UINT64_double_ok (R : Rounding) (v : Int) (hlo : (0 : Int) ≤ v) (hhi : v ≤ (18446744073709551615 : Int)) :
    get_NC_UINT64_double R v = ConvSpec.specIF64 R v := rfl

theorem put_NC_UINT64_schar_ok (R : Rounding) (fill : Option Int) (cur : Int) (v : Int) (hlo : (-128 : Int) ≤ v) (hhi : v ≤ (127 : Int)) :
    put_NC_UINT64_schar R fill cur v = ConvSpec.specII (0 : Int) (18446744073709551615 : Int) (fill.getD (18446744073709551614 : Int)) v :=
  ConvSpec.specII_of_lt (by decide) hhi (ConvSpec.umod_id (by decide) (by decide))

theorem put_NC_UINT64_short_ok (R : Rounding) (fill : Option Int) (cur : Int) (v : Int) (hlo : (-32768 : Int) ≤ v) (hhi : v ≤ (32767 : Int)) :
    put_NC_UINT64_short R fill cur v = ConvSpec.specII (0 : Int) (18446744073709551615 : Int) (fill.getD (18446744073709551614 : Int)) v :=
  ConvSpec.specII_of_lt (by decide) hhi (ConvSpec.umod_id (by decide) (by decide))

theorem put_NC_UINT64_int_ok (R : Rounding) (fill : Option Int) (cur : Int) (v : Int) (hlo : (-2147483648 : Int) ≤ v) (hhi : v ≤ (2147483647 : Int)) :
    put_NC_UINT64_int R fill cur v = ConvSpec.specII (0 : Int) (18446744073709551615 : Int) (fill.getD (18446744073709551614 : Int)) v :=
  ConvSpec.specII_of_lt (by decide) hhi (ConvSpec.umod_id (by decide) (by decide))

theorem put_NC_UINT64_long_ok (R : Rounding) (fill : Option Int) (cur : Int) (v : Int) (hlo : (-9223372036854775808 : Int) ≤ v) (hhi : v ≤ (9223372036854775807 : Int)) :
    put_NC_UINT64_long R fill cur v = ConvSpec.specII (0 : Int) (18446744073709551615 : Int) (fill.getD (18446744073709551614 : Int)) v :=
  ConvSpec.specII_of_lt (by decide) hhi (ConvSpec.umod_id (by decide) (by decide))

theorem put_NC_UINT64_longlong_ok (R : Rounding) (fill : Option Int) (cur : Int) (v : Int) (hlo : (-9223372036854775808 : Int) ≤ v) (hhi : v ≤ (9223372036854775807 : Int)) :
    put_NC_UINT64_longlong R fill cur v = ConvSpec.specII (0 : Int) (18446744073709551615 : Int) (fill.getD (18446744073709551614 : Int)) v :=
  ConvSpec.specII_of_lt (by decide) hhi (ConvSpec.umod_id (by decide) (by decide))

theorem put_NC_UINT64_uchar_ok (R : Rounding) (fill : Option Int) (cur : Int) (v : Int) (hlo : (0 : Int) ≤ v) (hhi : v ≤ (255 : Int)) :
    put_NC_UINT64_uchar R fill cur v = ConvSpec.specII (0 : Int) (18446744073709551615 : Int) (fill.getD (18446744073709551614 : Int)) v :=
  ConvSpec.specII_of_mem (by decide) (by decide) hlo hhi fun _ _ => rfl

theorem put_NC_UINT64_ushort_ok (R : Rounding) (fill : Option Int) (cur : Int) (v : Int) (hlo : (0 : Int) ≤ v) (hhi : v ≤ (65535 : Int)) :
    put_NC_UINT64_ushort R fill cur v = ConvSpec.specII (0 : Int) (18446744073709551615 : Int) (fill.getD (18446744073709551614 : Int)) v :=
  ConvSpec.specII_of_mem (by decide) (by decide) hlo hhi fun _ _ => rfl

theorem put_NC_UINT64_uint_ok (R : Rounding) (fill : Option Int) (cur : Int) (v : Int) (hlo : (0 : Int) ≤ v) (hhi : v ≤ (4294967295 : Int)) :
    put_NC_UINT64_uint R fill cur v = ConvSpec.specII (0 : Int) (18446744073709551615 : Int) (fill.getD (18446744073709551614 : Int)) v :=
  ConvSpec.specII_of_mem (by decide) (by decide) hlo hhi fun _ _ => rfl

/-- full-strength statement (false on the current tree, see the counterexample) -/
def put_NC_UINT64_float_Statement : Prop := ∀ (R : Rounding) (fill : Option Int) (cur : Int) (v : FV) (hrange : FV.inRange ((340282346638528859811704183484516925440 : Int) : Rat) v), put_NC_UINT64_float R fill cur v = ConvSpec.specFI (0 : Int) (18446744073709551615 : Int) (fill.getD (18446744073709551614 : Int)) v
theorem put_NC_UINT64_float_partial (R : Rounding) (fill : Option Int) (cur : Int) (v : FV) (hrange : FV.inRange ((340282346638528859811704183484516925440 : Int) : Rat) v) (hgap : FV.notInGap ((18446744073709551615 : Int) : Rat) ((18446744073709551616 : Int) : Rat) v) :
    put_NC_UINT64_float R fill cur v = ConvSpec.specFI (0 : Int) (18446744073709551615 : Int) (fill.getD (18446744073709551614 : Int)) v :=
  ConvSpec.specFI_of_guard' _ (by decide) hgap fun _ _ => rfl
/-- known finding F17 -/
theorem put_NC_UINT64_float_counterexample0 : ¬ put_NC_UINT64_float_Statement :=
  fun h => absurd (h Rounding.exact none 0 (FV.fin ((18446744073709551616 : Int) : Rat)) (by decide)) (by decide)

/-- full-strength statement (false on the current tree, see the counterexample) -/
def put_NC_UINT64_double_Statement : Prop := ∀ (R : Rounding) (fill : Option Int) (cur : Int) (v : FV) (hrange : FV.inRange ((179769313486231570814527423731704356798070567525844996598917476803157260780028538760589558632766878171540458953514382464234321326889464182768467546703537516986049910576551282076245490090389328944075868508455133942304583236903222948165808559332123348274797826204144723168738177180919299881250404026184124858368 : Int) : Rat) v), put_NC_UINT64_double R fill cur v = ConvSpec.specFI (0 : Int) (18446744073709551615 : Int) (fill.getD (18446744073709551614 : Int)) v
theorem put_NC_UINT64_double_partial (R : Rounding) (fill : Option Int) (cur : Int) (v : FV) (hrange : FV.inRange ((179769313486231570814527423731704356798070567525844996598917476803157260780028538760589558632766878171540458953514382464234321326889464182768467546703537516986049910576551282076245490090389328944075868508455133942304583236903222948165808559332123348274797826204144723168738177180919299881250404026184124858368 : Int) : Rat) v) (hgap : FV.notInGap ((18446744073709551615 : Int) : Rat) ((18446744073709551616 : Int) : Rat) v) :
    put_NC_UINT64_double R fill cur v = ConvSpec.specFI (0 : Int) (18446744073709551615 : Int) (fill.getD (18446744073709551614 : Int)) v :=
  ConvSpec.specFI_of_guard' _ (by decide) hgap fun _ _ => rfl
/-- known finding F17 -/
theorem put_NC_UINT64_double_counterexample0 : ¬ put_NC_UINT64_double_Statement :=
  fun h => absurd (h Rounding.exact none 0 (FV.fin ((18446744073709551616 : Int) : Rat)) (by decide)) (by decide)

theorem getn_NC_BYTE_uchar_elem_ok (R : Rounding) (v : Int) (hlo : (-128 : Int) ≤ v) (hhi : v ≤ (127 : Int)) :
    getn_NC_BYTE_uchar_elem R v = ConvSpec.specII (0 : Int) (255 : Int) (255 : Int) v :=
  ConvSpec.specII_of_lt (by decide) hhi (ConvSpec.umod_id (by decide) (by decide))

theorem getn_NC_BYTE_short_elem_ok (R : Rounding) (v : Int) (hlo : (-128 : Int) ≤ v) (hhi : v ≤ (127 : Int)) :
    getn_NC_BYTE_short_elem R v = ConvSpec.specII (-32768 : Int) (32767 : Int) (-32767 : Int) v :=
  ConvSpec.specII_of_mem (by decide) (by decide) hlo hhi fun _ _ => rfl

theorem getn_NC_BYTE_int_elem_ok (R : Rounding) (v : Int) (hlo : (-128 : Int) ≤ v) (hhi : v ≤ (127 : Int)) :
    getn_NC_BYTE_int_elem R v = ConvSpec.specII (-2147483648 : Int) (2147483647 : Int) (-2147483647 : Int) v :=
  ConvSpec.specII_of_mem (by decide) (by decide) hlo hhi fun _ _ => rfl

theorem getn_NC_BYTE_long_elem_ok (R : Rounding) (v : Int) (hlo : (-128 : Int) ≤ v) (hhi : v ≤ (127 : Int)) :
    getn_NC_BYTE_long_elem R v = ConvSpec.specII (-9223372036854775808 : Int) (9223372036854775807 : Int) (-2147483647 : Int) v :=
  ConvSpec.specII_of_mem (by decide) (by decide) hlo hhi fun _ _ => rfl

theorem getn_NC_BYTE_float_elem_ok (R : Rounding) (v : Int) (hlo : (-128 : Int) ≤ v) (hhi : v ≤ (127 : Int)) :
    getn_NC_BYTE_float_elem R v = ConvSpec.specIF32 R v := rfl

theorem getn_NC_BYTE_double_elem_ok (R : Rounding) (v : Int) (hlo : (-128 : Int) ≤ v) (hhi : v ≤ (127 : Int)) :
    getn_NC_BYTE_double_elem R v = ConvSpec.specIF64 R v := rfl

theorem getn_NC_BYTE_longlong_elem_ok (R : Rounding) (v : Int) (hlo : (-128 : Int) ≤ v) (hhi : v ≤ (127 : Int)) :
    getn_NC_BYTE_longlong_elem R v = ConvSpec.specII (-9223372036854775808 : Int) (9223372036854775807 : Int) (-9223372036854775806 : Int) v :=
  ConvSpec.specII_of_mem (by decide) (by decide) hlo hhi fun _ _ => rfl

theorem getn_NC_BYTE_ushort_elem_ok (R : Rounding) (v : Int) (hlo : (-128 : Int) ≤ v) (hhi : v ≤ (127 : Int)) :
    getn_NC_BYTE_ushort_elem R v = ConvSpec.specII (0 : Int) (65535 : Int) (65535 : Int) v :=
  ConvSpec.specII_of_lt (by decide) hhi (ConvSpec.umod_id (by decide) (by decide))

theorem getn_NC_BYTE_uint_elem_ok (R : Rounding) (v : Int) (hlo : (-128 : Int) ≤ v) (hhi : v ≤ (127 : Int)) :
    getn_NC_BYTE_uint_elem R v = ConvSpec.specII (0 : Int) (4294967295 : Int) (4294967295 : Int) v :=
  ConvSpec.specII_of_lt (by decide) hhi (ConvSpec.umod_id (by decide) (by decide))

theorem getn_NC_BYTE_ulonglong_elem_ok (R : Rounding) (v : Int) (hlo : (-128 : Int) ≤ v) (hhi : v ≤ (127 : Int)) :
    getn_NC_BYTE_ulonglong_elem R v = ConvSpec.specII (0 : Int) (18446744073709551615 : Int) (18446744073709551614 : Int) v :=
  ConvSpec.specII_of_lt (by decide) hhi (ConvSpec.umod_id (by decide) (by decide))

theorem pad_getn_NC_BYTE_uchar_elem_ok (R : Rounding) (v : Int) (hlo : (-128 : Int) ≤ v) (hhi : v ≤ (127 : Int)) :
    pad_getn_NC_BYTE_uchar_elem R v = ConvSpec.specII (0 : Int) (255 : Int) (255 : Int) v :=
  ConvSpec.specII_of_lt (by decide) hhi (ConvSpec.umod_id (by decide) (by decide))

theorem pad_getn_NC_BYTE_short_elem_ok (R : Rounding) (v : Int) (hlo : (-128 : Int) ≤ v) (hhi : v ≤ (127 : Int)) :
    pad_getn_NC_BYTE_short_elem R v = ConvSpec.specII (-32768 : Int) (32767 : Int) (-32767 : Int) v :=
  ConvSpec.specII_of_mem (by decide) (by decide) hlo hhi fun _ _ => rfl

theorem pad_getn_NC_BYTE_int_elem_ok (R : Rounding) (v : Int) (hlo : (-128 : Int) ≤ v) (hhi : v ≤ (127 : Int)) :
    pad_getn_NC_BYTE_int_elem R v = ConvSpec.specII (-2147483648 : Int) (2147483647 : Int) (-2147483647 : Int) v :=
  ConvSpec.specII_of_mem (by decide) (by decide) hlo hhi fun _ _ => rfl

theorem pad_getn_NC_BYTE_long_elem_ok (R : Rounding) (v : Int) (hlo : (-128 : Int) ≤ v) (hhi : v ≤ (127 : Int)) :
    pad_getn_NC_BYTE_long_elem R v = ConvSpec.specII (-9223372036854775808 : Int) (9223372036854775807 : Int) (-2147483647 : Int) v :=
  ConvSpec.specII_of_mem (by decide) (by decide) hlo hhi fun _ _ => rfl

theorem pad_getn_NC_BYTE_float_elem_ok (R : Rounding) (v : Int) (hlo : (-128 : Int) ≤ v) (hhi : v ≤ (127 : Int)) :
    pad_getn_NC_BYTE_float_elem R v = ConvSpec.specIF32 R v := rfl

theorem pad_getn_NC_BYTE_double_elem_ok (R : Rounding) (v : Int) (hlo : (-128 : Int) ≤ v) (hhi : v ≤ (127 : Int)) :
    pad_getn_NC_BYTE_double_elem R v = ConvSpec.specIF64 R v := rfl

theorem pad_getn_NC_BYTE_longlong_elem_ok (R : Rounding) (v : Int) (hlo : (-128 : Int) ≤ v) (hhi : v ≤ (127 : Int)) :
    pad_getn_NC_BYTE_longlong_elem R v = ConvSpec.specII (-9223372036854775808 : Int) (9223372036854775807 : Int) (-9223372036854775806 : Int) v :=
  ConvSpec.specII_of_mem (by decide) (by decide) hlo hhi fun _ _ => rfl

theorem pad_getn_NC_BYTE_ushort_elem_ok (R : Rounding) (v : Int) (hlo : (-128 : Int) ≤ v) (hhi : v ≤ (127 : Int)) :
    pad_getn_NC_BYTE_ushort_elem R v = ConvSpec.specII (0 : Int) (65535 : Int) (65535 : Int) v :=
  ConvSpec.specII_of_lt (by decide) hhi (ConvSpec.umod_id (by decide) (by decide))

theorem pad_getn_NC_BYTE_uint_elem_ok (R : Rounding) (v : Int) (hlo : (-128 : Int) ≤ v) (hhi : v ≤ (127 : Int)) :
    pad_getn_NC_BYTE_uint_elem R v = ConvSpec.specII (0 : Int) (4294967295 : Int) (4294967295 : Int) v :=
  ConvSpec.specII_of_lt (by decide) hhi (ConvSpec.umod_id (by decide) (by decide))

theorem pad_getn_NC_BYTE_ulonglong_elem_ok (R : Rounding) (v : Int) (hlo : (-128 : Int) ≤ v) (hhi : v ≤ (127 : Int)) :
    pad_getn_NC_BYTE_ulonglong_elem R v = ConvSpec.specII (0 : Int) (18446744073709551615 : Int) (18446744073709551614 : Int) v :=
  ConvSpec.specII_of_lt (by decide) hhi (ConvSpec.umod_id (by decide) (by decide))

theorem putn_NC_BYTE_uchar_elem_ok (R : Rounding) (fill : Option Int) (cur : Int) (v : Int) (hlo : (0 : Int) ≤ v) (hhi : v ≤ (255 : Int)) :
    putn_NC_BYTE_uchar_elem R fill cur v = ConvSpec.specII (-128 : Int) (127 : Int) (fill.getD cur) v :=
  ConvSpec.specII_of_gt (by decide) hlo (ConvSpec.smod_id rfl (by decide) (by decide))

theorem putn_NC_BYTE_short_elem_ok (R : Rounding) (fill : Option Int) (cur : Int) (v : Int) (hlo : (-32768 : Int) ≤ v) (hhi : v ≤ (32767 : Int)) :
    putn_NC_BYTE_short_elem R fill cur v = ConvSpec.specII (-128 : Int) (127 : Int) (fill.getD cur) v :=
  ConvSpec.specII_of_or (ConvSpec.smod_id rfl (by decide) (by decide))

theorem putn_NC_BYTE_int_elem_ok (R : Rounding) (fill : Option Int) (cur : Int) (v : Int) (hlo : (-2147483648 : Int) ≤ v) (hhi : v ≤ (2147483647 : Int)) :
    putn_NC_BYTE_int_elem R fill cur v = ConvSpec.specII (-128 : Int) (127 : Int) (fill.getD cur) v :=
  ConvSpec.specII_of_or (ConvSpec.smod_id rfl (by decide) (by decide))

theorem putn_NC_BYTE_long_elem_ok (R : Rounding) (fill : Option Int) (cur : Int) (v : Int) (hlo : (-9223372036854775808 : Int) ≤ v) (hhi : v ≤ (9223372036854775807 : Int)) :
    putn_NC_BYTE_long_elem R fill cur v = ConvSpec.specII (-128 : Int) (127 : Int) (fill.getD cur) v :=
  ConvSpec.specII_of_or (ConvSpec.smod_id rfl (by decide) (by decide))

theorem putn_NC_BYTE_float_elem_ok (R : Rounding) (fill : Option Int) (cur : Int) (v : FV) (hrange : FV.inRange ((340282346638528859811704183484516925440 : Int) : Rat) v) :
    putn_NC_BYTE_float_elem R fill cur v = ConvSpec.specFI (-128 : Int) (127 : Int) (fill.getD cur) v :=
  ConvSpec.specFI_of_guard _ _ _ _

theorem putn_NC_BYTE_double_elem_ok (R : Rounding) (fill : Option Int) (cur : Int) (v : FV) (hrange : FV.inRange ((179769313486231570814527423731704356798070567525844996598917476803157260780028538760589558632766878171540458953514382464234321326889464182768467546703537516986049910576551282076245490090389328944075868508455133942304583236903222948165808559332123348274797826204144723168738177180919299881250404026184124858368 : Int) : Rat) v) :
    putn_NC_BYTE_double_elem R fill cur v = ConvSpec.specFI (-128 : Int) (127 : Int) (fill.getD cur) v :=
  ConvSpec.specFI_of_guard _ _ _ _

theorem putn_NC_BYTE_longlong_elem_ok (R : Rounding) (fill : Option Int) (cur : Int) (v : Int) (hlo : (-9223372036854775808 : Int) ≤ v) (hhi : v ≤ (9223372036854775807 : Int)) :
    putn_NC_BYTE_longlong_elem R fill cur v = ConvSpec.specII (-128 : Int) (127 : Int) (fill.getD cur) v :=
  ConvSpec.specII_of_or (ConvSpec.smod_id rfl (by decide) (by decide))

theorem putn_NC_BYTE_ushort_elem_ok (R : Rounding) (fill : Option Int) (cur : Int) (v : Int) (hlo : (0 : Int) ≤ v) (hhi : v ≤ (65535 : Int)) :
    putn_NC_BYTE_ushort_elem R fill cur v = ConvSpec.specII (-128 : Int) (127 : Int) (fill.getD cur) v :=
  ConvSpec.specII_of_gt (by decide) hlo (ConvSpec.smod_id rfl (by decide) (by decide))

theorem putn_NC_BYTE_uint_elem_ok (R : Rounding) (fill : Option Int) (cur : Int) (v : Int) (hlo : (0 : Int) ≤ v) (hhi : v ≤ (4294967295 : Int)) :
    putn_NC_BYTE_uint_elem R fill cur v = ConvSpec.specII (-128 : Int) (127 : Int) (fill.getD cur) v :=
  ConvSpec.specII_of_gt (by decide) hlo (ConvSpec.smod_id rfl (by decide) (by decide))

theorem putn_NC_BYTE_ulonglong_elem_ok (R : Rounding) (fill : Option Int) (cur : Int) (v : Int) (hlo : (0 : Int) ≤ v) (hhi : v ≤ (18446744073709551615 : Int)) :
    putn_NC_BYTE_ulonglong_elem R fill cur v = ConvSpec.specII (-128 : Int) (127 : Int) (fill.getD cur) v :=
  ConvSpec.specII_of_gt (by decide) hlo (ConvSpec.smod_id rfl (by decide) (by decide))

theorem pad_putn_NC_BYTE_uchar_elem_ok (R : Rounding) (fill : Option Int) (cur : Int) (v : Int) (hlo : (0 : Int) ≤ v) (hhi : v ≤ (255 : Int)) :
    pad_putn_NC_BYTE_uchar_elem R fill cur v = ConvSpec.specII (-128 : Int) (127 : Int) (fill.getD cur) v :=
  ConvSpec.specII_of_gt (by decide) hlo (ConvSpec.smod_id rfl (by decide) (by decide))

theorem pad_putn_NC_BYTE_short_elem_ok (R : Rounding) (fill : Option Int) (cur : Int) (v : Int) (hlo : (-32768 : Int) ≤ v) (hhi : v ≤ (32767 : Int)) :
    pad_putn_NC_BYTE_short_elem R fill cur v = ConvSpec.specII (-128 : Int) (127 : Int) (fill.getD cur) v :=
  ConvSpec.specII_of_or (ConvSpec.smod_id rfl (by decide) (by decide))

theorem pad_putn_NC_BYTE_int_elem_ok (R : Rounding) (fill : Option Int) (cur : Int) (v : Int) (hlo : (-2147483648 : Int) ≤ v) (hhi : v ≤ (2147483647 : Int)) :
    pad_putn_NC_BYTE_int_elem R fill cur v = ConvSpec.specII (-128 : Int) (127 : Int) (fill.getD cur) v :=
  ConvSpec.specII_of_or (ConvSpec.smod_id rfl (by decide) (by decide))

theorem pad_putn_NC_BYTE_long_elem_ok (R : Rounding) (fill : Option Int) (cur : Int) (v : Int) (hlo : (-9223372036854775808 : Int) ≤ v) (hhi : v ≤ (9223372036854775807 : Int)) :
    pad_putn_NC_BYTE_long_elem R fill cur v = ConvSpec.specII (-128 : Int) (127 : Int) (fill.getD cur) v :=
  ConvSpec.specII_of_or (ConvSpec.smod_id rfl (by decide) (by decide))

theorem pad_putn_NC_BYTE_float_elem_ok (R : Rounding) (fill : Option Int) (cur : Int) (v : FV) (hrange : FV.inRange ((340282346638528859811704183484516925440 : Int) : Rat) v) :
    pad_putn_NC_BYTE_float_elem R fill cur v = ConvSpec.specFI (-128 : Int) (127 : Int) (fill.getD cur) v :=
  ConvSpec.specFI_of_guard _ _ _ _

theorem pad_putn_NC_BYTE_double_elem_ok (R : Rounding) (fill : Option Int) (cur : Int) (v : FV) (hrange : FV.inRange ((179769313486231570814527423731704356798070567525844996598917476803157260780028538760589558632766878171540458953514382464234321326889464182768467546703537516986049910576551282076245490090389328944075868508455133942304583236903222948165808559332123348274797826204144723168738177180919299881250404026184124858368 : Int) : Rat) v) :
    pad_putn_NC_BYTE_double_elem R fill cur v = ConvSpec.specFI (-128 : Int) (127 : Int) (fill.getD cur) v :=
  ConvSpec.specFI_of_guard _ _ _ _

theorem pad_putn_NC_BYTE_longlong_elem_ok (R : Rounding) (fill : Option Int) (cur : Int) (v : Int) (hlo : (-9223372036854775808 : Int) ≤ v) (hhi : v ≤ (9223372036854775807 : Int)) :
    pad_putn_NC_BYTE_longlong_elem R fill cur v = ConvSpec.specII (-128 : Int) (127 : Int) (fill.getD cur) v :=
  ConvSpec.specII_of_or (ConvSpec.smod_id rfl (by decide) (by decide))

theorem pad_putn_NC_BYTE_ushort_elem_ok (R : Rounding) (fill : Option Int) (cur : Int) (v : Int) (hlo : (0 : Int) ≤ v) (hhi : v ≤ (65535 : Int)) :
    pad_putn_NC_BYTE_ushort_elem R fill cur v = ConvSpec.specII (-128 : Int) (127 : Int) (fill.getD cur) v :=
  ConvSpec.specII_of_gt (by decide) hlo (ConvSpec.smod_id rfl (by decide) (by decide))

theorem pad_putn_NC_BYTE_uint_elem_ok (R : Rounding) (fill : Option Int) (cur : Int) (v : Int) (hlo : (0 : Int) ≤ v) (hhi : v ≤ (4294967295 : Int)) :
    pad_putn_NC_BYTE_uint_elem R fill cur v = ConvSpec.specII (-128 : Int) (127 : Int) (fill.getD cur) v :=
  ConvSpec.specII_of_gt (by decide) hlo (ConvSpec.smod_id rfl (by decide) (by decide))

theorem pad_putn_NC_BYTE_ulonglong_elem_ok (R : Rounding) (fill : Option Int) (cur : Int) (v : Int) (hlo : (0 : Int) ≤ v) (hhi : v ≤ (18446744073709551615 : Int)) :
    pad_putn_NC_BYTE_ulonglong_elem R fill cur v = ConvSpec.specII (-128 : Int) (127 : Int) (fill.getD cur) v :=
  ConvSpec.specII_of_gt (by decide) hlo (ConvSpec.smod_id rfl (by decide) (by decide))

theorem getn_NC_UBYTE_schar_elem_ok (R : Rounding) (v : Int) (hlo : (0 : Int) ≤ v) (hhi : v ≤ (255 : Int)) :
    getn_NC_UBYTE_schar_elem R v = ConvSpec.specII (-128 : Int) (127 : Int) (-127 : Int) v :=
  ConvSpec.specII_of_gt (by decide) hlo (ConvSpec.smod_id rfl (by decide) (by decide))

theorem getn_NC_UBYTE_short_elem_ok (R : Rounding) (v : Int) (hlo : (0 : Int) ≤ v) (hhi : v ≤ (255 : Int)) :
    getn_NC_UBYTE_short_elem R v = ConvSpec.specII (-32768 : Int) (32767 : Int) (-32767 : Int) v :=
  ConvSpec.specII_of_mem (by decide) (by decide) hlo hhi fun _ _ => rfl

theorem getn_NC_UBYTE_int_elem_ok (R : Rounding) (v : Int) (hlo : (0 : Int) ≤ v) (hhi : v ≤ (255 : Int)) :
    getn_NC_UBYTE_int_elem R v = ConvSpec.specII (-2147483648 : Int) (2147483647 : Int) (-2147483647 : Int) v :=
  ConvSpec.specII_of_mem (by decide) (by decide) hlo hhi fun _ _ => rfl

theorem getn_NC_UBYTE_long_elem_ok (R : Rounding) (v : Int) (hlo : (0 : Int) ≤ v) (hhi : v ≤ (255 : Int)) :
    getn_NC_UBYTE_long_elem R v = ConvSpec.specII (-9223372036854775808 : Int) (9223372036854775807 : Int) (-2147483647 : Int) v :=
  ConvSpec.specII_of_mem (by decide) (by decide) hlo hhi fun _ _ => rfl

theorem getn_NC_UBYTE_float_elem_ok (R : Rounding) (v : Int) (hlo : (0 : Int) ≤ v) (hhi : v ≤ (255 : Int)) :
    getn_NC_UBYTE_float_elem R v = ConvSpec.specIF32 R v := rfl

theorem getn_NC_UBYTE_double_elem_ok (R : Rounding) (v : Int) (hlo : (0 : Int) ≤ v) (hhi : v ≤ (255 : Int)) :
    getn_NC_UBYTE_double_elem R v = ConvSpec.specIF64 R v := rfl

theorem getn_NC_UBYTE_longlong_elem_ok (R : Rounding) (v : Int) (hlo : (0 : Int) ≤ v) (hhi : v ≤ (255 : Int)) :
    getn_NC_UBYTE_longlong_elem R v = ConvSpec.specII (-9223372036854775808 : Int) (9223372036854775807 : Int) (-9223372036854775806 : Int) v :=
  ConvSpec.specII_of_mem (by decide) (by decide) hlo hhi fun _ _ => rfl

theorem getn_NC_UBYTE_ushort_elem_ok (R : Rounding) (v : Int) (hlo : (0 : Int) ≤ v) (hhi : v ≤ (255 : Int)) :
    getn_NC_UBYTE_ushort_elem R v = ConvSpec.specII (0 : Int) (65535 : Int) (65535 : Int) v :=
  ConvSpec.specII_of_mem (by decide) (by decide) hlo hhi fun _ _ => rfl

theorem getn_NC_UBYTE_uint_elem_ok (R : Rounding) (v : Int) (hlo : (0 : Int) ≤ v) (hhi : v ≤ (255 : Int)) :
    getn_NC_UBYTE_uint_elem R v = ConvSpec.specII (0 : Int) (4294967295 : Int) (4294967295 : Int) v :=
  ConvSpec.specII_of_mem (by decide) (by decide) hlo hhi fun _ _ => rfl

theorem getn_NC_UBYTE_ulonglong_elem_ok (R : Rounding) (v : Int) (hlo : (0 : Int) ≤ v) (hhi : v ≤ (255 : Int)) :
    getn_NC_UBYTE_ulonglong_elem R v = ConvSpec.specII (0 : Int) (18446744073709551615 : Int) (18446744073709551614 : Int) v :=
  ConvSpec.specII_of_mem (by decide) (by decide) hlo hhi fun _ _ => rfl

theorem pad_getn_NC_UBYTE_schar_elem_ok (R : Rounding) (v : Int) (hlo : (0 : Int) ≤ v) (hhi : v ≤ (255 : Int)) :
    pad_getn_NC_UBYTE_schar_elem R v = ConvSpec.specII (-128 : Int) (127 : Int) (-127 : Int) v :=
  ConvSpec.specII_of_gt (by decide) hlo (ConvSpec.smod_id rfl (by decide) (by decide))

theorem pad_getn_NC_UBYTE_short_elem_ok (R : Rounding) (v : Int) (hlo : (0 : Int) ≤ v) (hhi : v ≤ (255 : Int)) :
    pad_getn_NC_UBYTE_short_elem R v = ConvSpec.specII (-32768 : Int) (32767 : Int) (-32767 : Int) v :=
  ConvSpec.specII_of_mem (by decide) (by decide) hlo hhi fun _ _ => rfl

theorem pad_getn_NC_UBYTE_int_elem_ok (R : Rounding) (v : Int) (hlo : (0 : Int) ≤ v) (hhi : v ≤ (255 : Int)) :
    pad_getn_NC_UBYTE_int_elem R v = ConvSpec.specII (-2147483648 : Int) (2147483647 : Int) (-2147483647 : Int) v :=
  ConvSpec.specII_of_mem (by decide) (by decide) hlo hhi fun _ _ => rfl

theorem pad_getn_NC_UBYTE_long_elem_ok (R : Rounding) (v : Int) (hlo : (0 : Int) ≤ v) (hhi : v ≤ (255 : Int)) :
    pad_getn_NC_UBYTE_long_elem R v = ConvSpec.specII (-9223372036854775808 : Int) (9223372036854775807 : Int) (-2147483647 : Int) v :=
  ConvSpec.specII_of_mem (by decide) (by decide) hlo hhi fun _ _ => rfl

theorem pad_getn_NC_UBYTE_float_elem_ok (R : Rounding) (v : Int) (hlo : (0 : Int) ≤ v) (hhi : v ≤ (255 : Int)) :
    pad_getn_NC_UBYTE_float_elem R v = ConvSpec.specIF32 R v := rfl

theorem pad_getn_NC_UBYTE_double_elem_ok (R : Rounding) (v : Int) (hlo : (0 : Int) ≤ v) (hhi : v ≤ (255 : Int)) :
    pad_getn_NC_UBYTE_double_elem R v = ConvSpec.specIF64 R v := rfl

theorem pad_getn_NC_UBYTE_longlong_elem_ok (R : Rounding) (v : Int) (hlo : (0 : Int) ≤ v) (hhi : v ≤ (255 : Int)) :
    pad_getn_NC_UBYTE_longlong_elem R v = ConvSpec.specII (-9223372036854775808 : Int) (9223372036854775807 : Int) (-9223372036854775806 : Int) v :=
  ConvSpec.specII_of_mem (by decide) (by decide) hlo hhi fun _ _ => rfl

theorem pad_getn_NC_UBYTE_ushort_elem_ok (R : Rounding) (v : Int) (hlo : (0 : Int) ≤ v) (hhi : v ≤ (255 : Int)) :
    pad_getn_NC_UBYTE_ushort_elem R v = ConvSpec.specII (0 : Int) (65535 : Int) (65535 : Int) v :=
  ConvSpec.specII_of_mem (by decide) (by decide) hlo hhi fun _ _ => rfl

theorem pad_getn_NC_UBYTE_uint_elem_ok (R : Rounding) (v : Int) (hlo : (0 : Int) ≤ v) (hhi : v ≤ (255 : Int)) :
    pad_getn_NC_UBYTE_uint_elem R v = ConvSpec.specII (0 : Int) (4294967295 : Int) (4294967295 : Int) v :=
  ConvSpec.specII_of_mem (by decide) (by decide) hlo hhi fun _ _ => rfl

theorem pad_getn_NC_UBYTE_ulonglong_elem_ok (R : Rounding) (v : Int) (hlo : (0 : Int) ≤ v) (hhi : v ≤ (255 : Int)) :
    pad_getn_NC_UBYTE_ulonglong_elem R v = ConvSpec.specII (0 : Int) (18446744073709551615 : Int) (18446744073709551614 : Int) v :=
  ConvSpec.specII_of_mem (by decide) (by decide) hlo hhi fun _ _ => rfl

theorem putn_NC_UBYTE_schar_elem_ok (R : Rounding) (fill : Option Int) (cur : Int) (v : Int) (hlo : (-128 : Int) ≤ v) (hhi : v ≤ (127 : Int)) :
    putn_NC_UBYTE_schar_elem R fill cur v = ConvSpec.specII (0 : Int) (255 : Int) (fill.getD cur) v :=
  ConvSpec.specII_of_lt (by decide) hhi (ConvSpec.umod_id (by decide) (by decide))

theorem putn_NC_UBYTE_short_elem_ok (R : Rounding) (fill : Option Int) (cur : Int) (v : Int) (hlo : (-32768 : Int) ≤ v) (hhi : v ≤ (32767 : Int)) :
    putn_NC_UBYTE_short_elem R fill cur v = ConvSpec.specII (0 : Int) (255 : Int) (fill.getD cur) v :=
  ConvSpec.specII_of_or (ConvSpec.umod_id (by decide) (by decide))

theorem putn_NC_UBYTE_int_elem_ok (R : Rounding) (fill : Option Int) (cur : Int) (v : Int) (hlo : (-2147483648 : Int) ≤ v) (hhi : v ≤ (2147483647 : Int)) :
    putn_NC_UBYTE_int_elem R fill cur v = ConvSpec.specII (0 : Int) (255 : Int) (fill.getD cur) v :=
  ConvSpec.specII_of_or (ConvSpec.umod_id (by decide) (by decide))

theorem putn_NC_UBYTE_long_elem_ok (R : Rounding) (fill : Option Int) (cur : Int) (v : Int) (hlo : (-9223372036854775808 : Int) ≤ v) (hhi : v ≤ (9223372036854775807 : Int)) :
    putn_NC_UBYTE_long_elem R fill cur v = ConvSpec.specII (0 : Int) (255 : Int) (fill.getD cur) v :=
  ConvSpec.specII_of_or fun _ _ => by omega

theorem putn_NC_UBYTE_float_elem_ok (R : Rounding) (fill : Option Int) (cur : Int) (v : FV) (hrange : FV.inRange ((340282346638528859811704183484516925440 : Int) : Rat) v) :
    putn_NC_UBYTE_float_elem R fill cur v = ConvSpec.specFI (0 : Int) (255 : Int) (fill.getD cur) v :=
  ConvSpec.specFI_of_guard' _ (Int.le_refl _) (FV.notInGap_self _ _) (ConvSpec.umod_id (by decide) (by decide))

theorem putn_NC_UBYTE_double_elem_ok (R : Rounding) (fill : Option Int) (cur : Int) (v : FV) (hrange : FV.inRange ((179769313486231570814527423731704356798070567525844996598917476803157260780028538760589558632766878171540458953514382464234321326889464182768467546703537516986049910576551282076245490090389328944075868508455133942304583236903222948165808559332123348274797826204144723168738177180919299881250404026184124858368 : Int) : Rat) v) :
    putn_NC_UBYTE_double_elem R fill cur v = ConvSpec.specFI (0 : Int) (255 : Int) (fill.getD cur) v :=
  ConvSpec.specFI_of_guard' _ (Int.le_refl _) (FV.notInGap_self _ _) (ConvSpec.umod_id (by decide) (by decide))

theorem putn_NC_UBYTE_longlong_elem_ok (R : Rounding) (fill : Option Int) (cur : Int) (v : Int) (hlo : (-9223372036854775808 : Int) ≤ v) (hhi : v ≤ (9223372036854775807 : Int)) :
    putn_NC_UBYTE_longlong_elem R fill cur v = ConvSpec.specII (0 : Int) (255 : Int) (fill.getD cur) v :=
  ConvSpec.specII_of_or fun _ _ => by omega

theorem putn_NC_UBYTE_ushort_elem_ok (R : Rounding) (fill : Option Int) (cur : Int) (v : Int) (hlo : (0 : Int) ≤ v) (hhi : v ≤ (65535 : Int)) :
    putn_NC_UBYTE_ushort_elem R fill cur v = ConvSpec.specII (0 : Int) (255 : Int) (fill.getD cur) v :=
  ConvSpec.specII_of_gt (by decide) hlo (ConvSpec.umod_id (by decide) (by decide))

theorem putn_NC_UBYTE_uint_elem_ok (R : Rounding) (fill : Option Int) (cur : Int) (v : Int) (hlo : (0 : Int) ≤ v) (hhi : v ≤ (4294967295 : Int)) :
    putn_NC_UBYTE_uint_elem R fill cur v = ConvSpec.specII (0 : Int) (255 : Int) (fill.getD cur) v :=
  ConvSpec.specII_of_gt (by decide) hlo (ConvSpec.umod_id (by decide) (by decide))

theorem putn_NC_UBYTE_ulonglong_elem_ok (R : Rounding) (fill : Option Int) (cur : Int) (v : Int) (hlo : (0 : Int) ≤ v) (hhi : v ≤ (18446744073709551615 : Int)) :
    putn_NC_UBYTE_ulonglong_elem R fill cur v = ConvSpec.specII (0 : Int) (255 : Int) (fill.getD cur) v :=
  ConvSpec.specII_of_gt (by decide) hlo (ConvSpec.umod_id (by decide) (by decide))

theorem pad_putn_NC_UBYTE_schar_elem_ok (R : Rounding) (fill : Option Int) (cur : Int) (v : Int) (hlo : (-128 : Int) ≤ v) (hhi : v ≤ (127 : Int)) :
    pad_putn_NC_UBYTE_schar_elem R fill cur v = ConvSpec.specII (0 : Int) (255 : Int) (fill.getD cur) v :=
  ConvSpec.specII_of_lt (by decide) hhi (ConvSpec.umod_id (by decide) (by decide))

theorem pad_putn_NC_UBYTE_short_elem_ok (R : Rounding) (fill : Option Int) (cur : Int) (v : Int) (hlo : (-32768 : Int) ≤ v) (hhi : v ≤ (32767 : Int)) :
    pad_putn_NC_UBYTE_short_elem R fill cur v = ConvSpec.specII (0 : Int) (255 : Int) (fill.getD cur) v :=
  ConvSpec.specII_of_or (ConvSpec.umod_id (by decide) (by decide))

theorem pad_putn_NC_UBYTE_int_elem_ok (R : Rounding) (fill : Option Int) (cur : Int) (v : Int) (hlo : (-2147483648 : Int) ≤ v) (hhi : v ≤ (2147483647 : Int)) :
    pad_putn_NC_UBYTE_int_elem R fill cur v = ConvSpec.specII (0 : Int) (255 : Int) (fill.getD cur) v :=
  ConvSpec.specII_of_or (ConvSpec.umod_id (by decide) (by decide))

theorem pad_putn_NC_UBYTE_long_elem_ok (R : Rounding) (fill : Option Int) (cur : Int) (v : Int) (hlo : (-9223372036854775808 : Int) ≤ v) (hhi : v ≤ (9223372036854775807 : Int)) :
    pad_putn_NC_UBYTE_long_elem R fill cur v = ConvSpec.specII (0 : Int) (255 : Int) (fill.getD cur) v :=
  ConvSpec.specII_of_or fun _ _ => by omega

theorem pad_putn_NC_UBYTE_float_elem_ok (R : Rounding) (fill : Option Int) (cur : Int) (v : FV) (hrange : FV.inRange ((340282346638528859811704183484516925440 : Int) : Rat) v) :
    pad_putn_NC_UBYTE_float_elem R fill cur v = ConvSpec.specFI (0 : Int) (255 : Int) (fill.getD cur) v :=
  ConvSpec.specFI_of_guard' _ (Int.le_refl _) (FV.notInGap_self _ _) (ConvSpec.umod_id (by decide) (by decide))

theorem pad_putn_NC_UBYTE_double_elem_ok (R : Rounding) (fill : Option Int) (cur : Int) (v : FV) (hrange : FV.inRange ((179769313486231570814527423731704356798070567525844996598917476803157260780028538760589558632766878171540458953514382464234321326889464182768467546703537516986049910576551282076245490090389328944075868508455133942304583236903222948165808559332123348274797826204144723168738177180919299881250404026184124858368 : Int) : Rat) v) :
    pad_putn_NC_UBYTE_double_elem R fill cur v = ConvSpec.specFI (0 : Int) (255 : Int) (fill.getD cur) v :=
  ConvSpec.specFI_of_guard' _ (Int.le_refl _) (FV.notInGap_self _ _) (ConvSpec.umod_id (by decide) (by decide))

theorem pad_putn_NC_UBYTE_longlong_elem_ok (R : Rounding) (fill : Option Int) (cur : Int) (v : Int) (hlo : (-9223372036854775808 : Int) ≤ v) (hhi : v ≤ (9223372036854775807 : Int)) :
    pad_putn_NC_UBYTE_longlong_elem R fill cur v = ConvSpec.specII (0 : Int) (255 : Int) (fill.getD cur) v :=
  ConvSpec.specII_of_or fun _ _ => by omega

theorem pad_putn_NC_UBYTE_ushort_elem_ok (R : Rounding) (fill : Option Int) (cur : Int) (v : Int) (hlo : (0 : Int) ≤ v) (hhi : v ≤ (65535 : Int)) :
    pad_putn_NC_UBYTE_ushort_elem R fill cur v = ConvSpec.specII (0 : Int) (255 : Int) (fill.getD cur) v :=
  ConvSpec.specII_of_gt (by decide) hlo (ConvSpec.umod_id (by decide) (by decide))

theorem pad_putn_NC_UBYTE_uint_elem_ok (R : Rounding) (fill : Option Int) (cur : Int) (v : Int) (hlo : (0 : Int) ≤ v) (hhi : v ≤ (4294967295 : Int)) :
    pad_putn_NC_UBYTE_uint_elem R fill cur v = ConvSpec.specII (0 : Int) (255 : Int) (fill.getD cur) v :=
  ConvSpec.specII_of_gt (by decide) hlo (ConvSpec.umod_id (by decide) (by decide))

theorem pad_putn_NC_UBYTE_ulonglong_elem_ok (R : Rounding) (fill : Option Int) (cur : Int) (v : Int) (hlo : (0 : Int) ≤ v) (hhi : v ≤ (18446744073709551615 : Int)) :
    pad_putn_NC_UBYTE_ulonglong_elem R fill cur v = ConvSpec.specII (0 : Int) (255 : Int) (fill.getD cur) v :=
  ConvSpec.specII_of_gt (by decide) hlo (ConvSpec.umod_id (by decide) (by decide))

def obligations : List String := [
  "get_NC_SHORT_schar_ok",
  "get_NC_SHORT_short_ok",
  "get_NC_SHORT_int_ok",
  "get_NC_SHORT_long_ok",
  "get_NC_SHORT_longlong_ok",
  "get_NC_SHORT_ushort_ok",
  "get_NC_SHORT_uchar_ok",
  "get_NC_SHORT_uint_ok",
  "get_NC_SHORT_ulonglong_ok",
  "get_NC_SHORT_float_ok",
  "get_NC_SHORT_double_ok",
  "put_NC_SHORT_schar_ok",
  "put_NC_SHORT_uchar_ok",
  "put_NC_SHORT_short_ok",
  "put_NC_SHORT_int_ok",
  "put_NC_SHORT_long_ok",
  "put_NC_SHORT_longlong_ok",
  "put_NC_SHORT_ushort_ok",
  "put_NC_SHORT_uint_ok",
  "put_NC_SHORT_ulonglong_ok",
  "put_NC_SHORT_float_ok",
  "put_NC_SHORT_double_ok",
  "get_NC_USHORT_schar_ok",
  "get_NC_USHORT_short_ok",
  "get_NC_USHORT_int_ok",
  "get_NC_USHORT_long_ok",
  "get_NC_USHORT_longlong_ok",
  "get_NC_USHORT_ushort_ok",
  "get_NC_USHORT_uchar_ok",
  "get_NC_USHORT_uint_ok",
  "get_NC_USHORT_ulonglong_ok",
  "get_NC_USHORT_float_ok",
  "get_NC_USHORT_double_ok",
  "put_NC_USHORT_schar_ok",
  "put_NC_USHORT_uchar_ok",
  "put_NC_USHORT_short_ok",
  "put_NC_USHORT_int_ok",
  "put_NC_USHORT_long_ok",
  "put_NC_USHORT_longlong_ok",
  "put_NC_USHORT_ushort_ok",
  "put_NC_USHORT_uint_ok",
  "put_NC_USHORT_ulonglong_ok",
  "put_NC_USHORT_float_ok",
  "put_NC_USHORT_double_ok",
  "get_NC_INT_schar_ok",
  "get_NC_INT_short_ok",
  "get_NC_INT_long_ok",
  "get_NC_INT_longlong_ok",
  "get_NC_INT_ushort_ok",
  "get_NC_INT_uchar_ok",
  "get_NC_INT_uint_ok",
  "get_NC_INT_ulonglong_ok",
  "get_NC_INT_float_ok",
  "get_NC_INT_double_ok",
  "put_NC_INT_schar_ok",
  "put_NC_INT_uchar_ok",
  "put_NC_INT_short_ok",
  "put_NC_INT_long_ok",
  "put_NC_INT_longlong_ok",
  "put_NC_INT_ushort_ok",
  "put_NC_INT_uint_ok",
  "put_NC_INT_ulonglong_ok",
  "put_NC_INT_float_ok",
  "put_NC_INT_double_ok",
  "get_NC_UINT_schar_ok",
  "get_NC_UINT_short_ok",
  "get_NC_UINT_int_ok",
  "get_NC_UINT_long_ok",
  "get_NC_UINT_longlong_ok",
  "get_NC_UINT_ushort_ok",
  "get_NC_UINT_uchar_ok",
  "get_NC_UINT_ulonglong_ok",
  "get_NC_UINT_float_ok",
  "get_NC_UINT_double_ok",
  "put_NC_UINT_schar_ok",
  "put_NC_UINT_uchar_ok",
  "put_NC_UINT_short_ok",
  "put_NC_UINT_int_ok",
  "put_NC_UINT_long_ok",
  "put_NC_UINT_longlong_ok",
  "put_NC_UINT_ushort_ok",
  "put_NC_UINT_ulonglong_ok",
  "put_NC_UINT_float_ok",
  "put_NC_UINT_double_ok",
  "get_NC_FLOAT_schar_ok",
  "get_NC_FLOAT_short_ok",
  "get_NC_FLOAT_int_ok",
  "get_NC_FLOAT_long_partial",
  "get_NC_FLOAT_long_counterexample0",
  "get_NC_FLOAT_double_ok",
  "get_NC_FLOAT_longlong_partial",
  "get_NC_FLOAT_longlong_counterexample0",
  "get_NC_FLOAT_uchar_ok",
  "get_NC_FLOAT_ushort_ok",
  "get_NC_FLOAT_uint_ok",
  "get_NC_FLOAT_ulonglong_partial",
  "get_NC_FLOAT_ulonglong_counterexample0",
  "put_NC_FLOAT_schar_ok",
  "put_NC_FLOAT_short_ok",
  "put_NC_FLOAT_int_ok",
  "put_NC_FLOAT_long_ok",
  "put_NC_FLOAT_double_ok",
  "put_NC_FLOAT_longlong_ok",
  "put_NC_FLOAT_uchar_ok",
  "put_NC_FLOAT_ushort_ok",
  "put_NC_FLOAT_uint_ok",
  "put_NC_FLOAT_ulonglong_ok",
  "get_NC_DOUBLE_schar_ok",
  "get_NC_DOUBLE_short_ok",
  "get_NC_DOUBLE_int_ok",
  "get_NC_DOUBLE_long_partial",
  "get_NC_DOUBLE_long_counterexample0",
  "get_NC_DOUBLE_longlong_partial",
  "get_NC_DOUBLE_longlong_counterexample0",
  "get_NC_DOUBLE_uchar_ok",
  "get_NC_DOUBLE_ushort_ok",
  "get_NC_DOUBLE_uint_ok",
  "get_NC_DOUBLE_ulonglong_partial",
  "get_NC_DOUBLE_ulonglong_counterexample0",
  "get_NC_DOUBLE_float_ok",
  "put_NC_DOUBLE_schar_ok",
  "put_NC_DOUBLE_uchar_ok",
  "put_NC_DOUBLE_short_ok",
  "put_NC_DOUBLE_ushort_ok",
  "put_NC_DOUBLE_int_ok",
  "put_NC_DOUBLE_long_ok",
  "put_NC_DOUBLE_uint_ok",
  "put_NC_DOUBLE_longlong_ok",
  "put_NC_DOUBLE_ulonglong_ok",
  "put_NC_DOUBLE_float_ok",
  "get_NC_INT64_schar_ok",
  "get_NC_INT64_short_ok",
  "get_NC_INT64_int_ok",
  "get_NC_INT64_long_ok",
  "get_NC_INT64_ushort_ok",
  "get_NC_INT64_uchar_ok",
  "get_NC_INT64_uint_ok",
  "get_NC_INT64_ulonglong_ok",
  "get_NC_INT64_float_ok",
  "get_NC_INT64_double_ok",
  "put_NC_INT64_schar_ok",
  "put_NC_INT64_short_ok",
  "put_NC_INT64_int_ok",
  "put_NC_INT64_long_ok",
  "put_NC_INT64_ushort_ok",
  "put_NC_INT64_uchar_ok",
  "put_NC_INT64_uint_ok",
  "put_NC_INT64_ulonglong_ok",
  "put_NC_INT64_float_partial",
  "put_NC_INT64_float_counterexample0",
  "put_NC_INT64_double_partial",
  "put_NC_INT64_double_counterexample0",
  "get_NC_UINT64_schar_ok",
  "get_NC_UINT64_short_ok",
  "get_NC_UINT64_int_ok",
  "get_NC_UINT64_long_ok",
  "get_NC_UINT64_longlong_ok",
  "get_NC_UINT64_ushort_ok",
  "get_NC_UINT64_uchar_ok",
  "get_NC_UINT64_uint_ok",
  "get_NC_UINT64_float_ok",
  "get_NC_UINT64_double_ok",
  "put_NC_UINT64_schar_ok",
  "put_NC_UINT64_short_ok",
  "put_NC_UINT64_int_ok",
  "put_NC_UINT64_long_ok",
  "put_NC_UINT64_longlong_ok",
  "put_NC_UINT64_uchar_ok",
  "put_NC_UINT64_ushort_ok",
  "put_NC_UINT64_uint_ok",
  "put_NC_UINT64_float_partial",
  "put_NC_UINT64_float_counterexample0",
  "put_NC_UINT64_double_partial",
  "put_NC_UINT64_double_counterexample0",
  "getn_NC_BYTE_uchar_elem_ok",
  "getn_NC_BYTE_short_elem_ok",
  "getn_NC_BYTE_int_elem_ok",
  "getn_NC_BYTE_long_elem_ok",
  "getn_NC_BYTE_float_elem_ok",
  "getn_NC_BYTE_double_elem_ok",
  "getn_NC_BYTE_longlong_elem_ok",
  "getn_NC_BYTE_ushort_elem_ok",
  "getn_NC_BYTE_uint_elem_ok",
  "getn_NC_BYTE_ulonglong_elem_ok",
  "pad_getn_NC_BYTE_uchar_elem_ok",
  "pad_getn_NC_BYTE_short_elem_ok",
  "pad_getn_NC_BYTE_int_elem_ok",
  "pad_getn_NC_BYTE_long_elem_ok",
  "pad_getn_NC_BYTE_float_elem_ok",
  "pad_getn_NC_BYTE_double_elem_ok",
  "pad_getn_NC_BYTE_longlong_elem_ok",
  "pad_getn_NC_BYTE_ushort_elem_ok",
  "pad_getn_NC_BYTE_uint_elem_ok",
  "pad_getn_NC_BYTE_ulonglong_elem_ok",
  "putn_NC_BYTE_uchar_elem_ok",
  "putn_NC_BYTE_short_elem_ok",
  "putn_NC_BYTE_int_elem_ok",
  "putn_NC_BYTE_long_elem_ok",
  "putn_NC_BYTE_float_elem_ok",
  "putn_NC_BYTE_double_elem_ok",
  "putn_NC_BYTE_longlong_elem_ok",
  "putn_NC_BYTE_ushort_elem_ok",
  "putn_NC_BYTE_uint_elem_ok",
  "putn_NC_BYTE_ulonglong_elem_ok",
  "pad_putn_NC_BYTE_uchar_elem_ok",
  "pad_putn_NC_BYTE_short_elem_ok",
  "pad_putn_NC_BYTE_int_elem_ok",
  "pad_putn_NC_BYTE_long_elem_ok",
  "pad_putn_NC_BYTE_float_elem_ok",
  "pad_putn_NC_BYTE_double_elem_ok",
  "pad_putn_NC_BYTE_longlong_elem_ok",
  "pad_putn_NC_BYTE_ushort_elem_ok",
  "pad_putn_NC_BYTE_uint_elem_ok",
  "pad_putn_NC_BYTE_ulonglong_elem_ok",
  "getn_NC_UBYTE_schar_elem_ok",
  "getn_NC_UBYTE_short_elem_ok",
  "getn_NC_UBYTE_int_elem_ok",
  "getn_NC_UBYTE_long_elem_ok",
  "getn_NC_UBYTE_float_elem_ok",
  "getn_NC_UBYTE_double_elem_ok",
  "getn_NC_UBYTE_longlong_elem_ok",
  "getn_NC_UBYTE_ushort_elem_ok",
  "getn_NC_UBYTE_uint_elem_ok",
  "getn_NC_UBYTE_ulonglong_elem_ok",
  "pad_getn_NC_UBYTE_schar_elem_ok",
  "pad_getn_NC_UBYTE_short_elem_ok",
  "pad_getn_NC_UBYTE_int_elem_ok",
  "pad_getn_NC_UBYTE_long_elem_ok",
  "pad_getn_NC_UBYTE_float_elem_ok",
  "pad_getn_NC_UBYTE_double_elem_ok",
  "pad_getn_NC_UBYTE_longlong_elem_ok",
  "pad_getn_NC_UBYTE_ushort_elem_ok",
  "pad_getn_NC_UBYTE_uint_elem_ok",
  "pad_getn_NC_UBYTE_ulonglong_elem_ok",
  "putn_NC_UBYTE_schar_elem_ok",
  "putn_NC_UBYTE_short_elem_ok",
  "putn_NC_UBYTE_int_elem_ok",
  "putn_NC_UBYTE_long_elem_ok",
  "putn_NC_UBYTE_float_elem_ok",
  "putn_NC_UBYTE_double_elem_ok",
  "putn_NC_UBYTE_longlong_elem_ok",
  "putn_NC_UBYTE_ushort_elem_ok",
  "putn_NC_UBYTE_uint_elem_ok",
  "putn_NC_UBYTE_ulonglong_elem_ok",
  "pad_putn_NC_UBYTE_schar_elem_ok",
  "pad_putn_NC_UBYTE_short_elem_ok",
  "pad_putn_NC_UBYTE_int_elem_ok",
  "pad_putn_NC_UBYTE_long_elem_ok",
  "pad_putn_NC_UBYTE_float_elem_ok",
  "pad_putn_NC_UBYTE_double_elem_ok",
  "pad_putn_NC_UBYTE_longlong_elem_ok",
  "pad_putn_NC_UBYTE_ushort_elem_ok",
  "pad_putn_NC_UBYTE_uint_elem_ok",
  "pad_putn_NC_UBYTE_ulonglong_elem_ok"
]
end PnVerif.Gen.NcxProofs
