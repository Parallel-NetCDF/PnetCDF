/-
  The file as the models see it: a byte map with read-default-0 (sparse-file semantics).
  Laws used by C01 / C06 / C15 / C16.  Core Lean only.
-/
namespace PnVerif

abbrev File := Nat → UInt8

namespace File

def empty : File := fun _ => 0

def writeAt (f : File) (off : Nat) (bs : List UInt8) : File :=
  fun i => if off ≤ i ∧ i < off + bs.length then bs.getD (i - off) 0 else f i

def readAt (f : File) (off n : Nat) : List UInt8 := (List.range n).map (fun j => f (off + j))

theorem writeAt_in (f : File) (off : Nat) (bs : List UInt8) (i : Nat) (h : off ≤ i ∧ i < off + bs.length) :
    writeAt f off bs i = bs.getD (i - off) 0 := if_pos h

theorem writeAt_out (f : File) (off : Nat) (bs : List UInt8) (i : Nat) (h : i < off ∨ off + bs.length ≤ i) :
    writeAt f off bs i = f i := if_neg (by omega)

theorem readAt_congr {f g : File} {o n : Nat} (h : ∀ i, o ≤ i → i < o + n → f i = g i) :
    readAt f o n = readAt g o n :=
  List.map_congr_left fun j hj => h _ (Nat.le_add_right o j) (Nat.add_lt_add_left (List.mem_range.mp hj) o)

theorem read_write_same (f : File) (off : Nat) (bs : List UInt8) :
    readAt (writeAt f off bs) off bs.length = bs := by
  apply List.ext_getElem
  · simp [readAt]
  · intro j _ h2
    simp [readAt, writeAt_in _ _ _ _ ⟨Nat.le_add_right off j, Nat.add_lt_add_left h2 off⟩, h2]

theorem read_write_disjoint (f : File) (off : Nat) (bs : List UInt8) (off' n : Nat)
    (h : off' + n ≤ off ∨ off + bs.length ≤ off') :
    readAt (writeAt f off bs) off' n = readAt f off' n :=
  readAt_congr fun i _ _ => writeAt_out _ _ _ _ (by omega)

/-- writes to disjoint byte ranges commute: any decomposition of a region over any number of
    processes, in any order, yields the same file -/
theorem writes_commute (f : File) (o1 o2 : Nat) (b1 b2 : List UInt8)
    (h : o1 + b1.length ≤ o2 ∨ o2 + b2.length ≤ o1) :
    writeAt (writeAt f o1 b1) o2 b2 = writeAt (writeAt f o2 b2) o1 b1 := by
  funext i
  unfold writeAt
  by_cases h1 : o1 ≤ i ∧ i < o1 + b1.length <;> by_cases h2 : o2 ≤ i ∧ i < o2 + b2.length <;> simp [h1, h2]
  omega

def putElems (f : File) (reqs : List (Nat × List UInt8)) : File :=
  reqs.foldl (fun g r => writeAt g r.1 r.2) f

def disjointFrom (o : Nat) (n : Nat) (reqs : List (Nat × List UInt8)) : Prop :=
  ∀ r ∈ reqs, o + n ≤ r.1 ∨ r.1 + r.2.length ≤ o

theorem putElems_frame (f : File) (reqs : List (Nat × List UInt8)) (i : Nat)
    (h : ∀ r ∈ reqs, i < r.1 ∨ r.1 + r.2.length ≤ i) : putElems f reqs i = f i := by
  unfold putElems
  induction reqs generalizing f with
  | nil => rfl
  | cons r rest ih =>
    simp only [List.foldl_cons]
    rw [ih _ (fun x hx => h x (List.mem_cons_of_mem _ hx))]
    exact writeAt_out _ _ _ _ (h r List.mem_cons_self)

theorem readAt_putElems_disjoint (f : File) (reqs : List (Nat × List UInt8)) (o n : Nat)
    (h : disjointFrom o n reqs) : readAt (putElems f reqs) o n = readAt f o n :=
  readAt_congr fun i _ _ => putElems_frame _ _ _ fun r hr => by have := h r hr; omega

def pairwiseDisjoint : List (Nat × List UInt8) → Prop
  | [] => True
  | r :: rest => disjointFrom r.1 r.2.length rest ∧ pairwiseDisjoint rest

/-- **get-after-put**: after a batch of pairwise disjoint element writes, every written range reads
    back exactly what was written -/
theorem get_put (f : File) (reqs : List (Nat × List UInt8)) (hd : pairwiseDisjoint reqs) :
    ∀ r ∈ reqs, readAt (putElems f reqs) r.1 r.2.length = r.2 := by
  induction reqs generalizing f with
  | nil => intro r hr; simp at hr
  | cons r0 rest ih =>
    intro r hr
    obtain ⟨hd0, hdr⟩ := hd
    rcases List.mem_cons.mp hr with rfl | h
    · exact (readAt_putElems_disjoint (writeAt f r.1 r.2) rest _ _ hd0).trans (read_write_same f r.1 r.2)
    · exact ih (writeAt f r0.1 r0.2) hdr r h

end File
end PnVerif
