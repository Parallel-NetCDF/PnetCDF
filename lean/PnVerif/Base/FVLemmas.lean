import PnVerif.Base.FV
import PnVerif.Spec.ConvSpec
/-
  What each shape of conversion body in Gen/Ncx.lean computes, stated about variables.
  Gen/NcxProofs.lean instantiates these at the constants of each primitive.
-/
namespace PnVerif

namespace FV

theorem gt_fin (a b : Rat) : gt (.fin a) (.fin b) ↔ b < a := Iff.rfl
theorem lt_fin (a b : Rat) : lt (.fin a) (.fin b) ↔ a < b := Iff.rfl
theorem feq_fin (a b : Rat) : feq (.fin a) (.fin b) ↔ a = b := Iff.rfl
theorem le_fin (a b : Rat) : le (.fin a) (.fin b) ↔ a ≤ b := Rat.le_iff_lt_or_eq.symm
theorem ge_fin (a b : Rat) : ge (.fin a) (.fin b) ↔ b ≤ a := le_fin b a

theorem eq_fin_of_feq {v : FV} {a : Rat} (h : feq v (.fin a)) : v = .fin a := by
  cases v with
  | fin q => exact congrArg fin h
  | _ => exact h.elim

theorem notInGap_self (a : Rat) (v : FV) : notInGap a a v := by
  cases v with
  | fin q => exact (Decidable.em (q ≤ a)).imp_right Rat.not_le.mp
  | _ => trivial

theorem not_feq_of_notInGap {a b : Rat} {v : FV} (hab : a < b) (h : notInGap a b v) :
    ¬ feq v (.fin b) := by
  intro hf
  rw [eq_fin_of_feq hf] at h
  exact h.elim (Rat.not_le.mpr hab) Rat.lt_irrefl

theorem truncQ_bounds {lo hi : Int} {q : Rat} (h1 : (lo : Rat) ≤ q) (h2 : q ≤ (hi : Rat)) :
    lo ≤ truncQ q ∧ truncQ q ≤ hi := by
  unfold truncQ
  split
  · exact ⟨Rat.le_floor_iff.mpr h1,
      Rat.intCast_le_intCast.mp (Rat.le_trans (Rat.floor_le q) h2)⟩
  · exact ⟨Rat.intCast_le_intCast.mp (Rat.le_trans h1 Rat.le_ceil), Rat.ceil_le_iff.mpr h2⟩

theorem truncQ_intCast (z : Int) : truncQ (z : Rat) = z := by
  unfold truncQ
  split
  · exact Rat.floor_intCast z
  · exact Rat.ceil_intCast z

end FV

theorem ite_ite_same {α : Type} {p q : Prop} [Decidable p] [Decidable q] (x y : α) :
    (if p then x else if q then x else y) = if p ∨ q then x else y := by
  by_cases hp : p <;> simp [hp]

namespace ConvSpec
variable {lo hi ilo ihi fill v w m n : Int}

/-! integer → integer (NCX_GET1I / NCX_PUT1I of ncx.m4).  `[ilo, ihi]` is the range of the source
    type, `[lo, hi]` that of the destination, `w` what the cast `(T)xx` computes.  The macros emit
    only the range tests the two types make necessary, hence one lemma per combination. -/

theorem specII_in (fill : Int) (h1 : lo ≤ v) (h2 : v ≤ hi) : specII lo hi fill v = (v, 0) :=
  if_pos ⟨h1, h2⟩

theorem specII_out (fill : Int) (h : hi < v ∨ v < lo) : specII lo hi fill v = (fill, -60) :=
  if_neg fun ⟨h1, h2⟩ => h.elim (Int.not_lt.mpr h2) (Int.not_lt.mpr h1)

/-- signed source, narrower signed destination -/
theorem specII_of_or (h : lo ≤ v → v ≤ hi → w = v) :
    (if v > hi ∨ v < lo then (fill, (-60 : Int)) else (w, (0 : Int))) = specII lo hi fill v := by
  split
  next hc => exact (specII_out fill hc).symm
  next hc =>
    have h1 := Int.not_lt.mp fun h => hc (.inr h)
    have h2 := Int.not_lt.mp fun h => hc (.inl h)
    rw [specII_in fill h1 h2, h h1 h2]

/-- signed source, narrower unsigned destination: two `if`s in the C -/
theorem specII_of_gt_lt (h : lo ≤ v → v ≤ hi → w = v) :
    (if v > hi then (fill, (-60 : Int)) else if v < lo then (fill, (-60 : Int)) else (w, (0 : Int)))
      = specII lo hi fill v :=
  (ite_ite_same _ _).trans (specII_of_or h)

/-- the source has no value below the destination's minimum -/
theorem specII_of_gt (hl : lo ≤ ilo) (hlo : ilo ≤ v) (h : lo ≤ v → v ≤ hi → w = v) :
    (if v > hi then (fill, (-60 : Int)) else (w, (0 : Int))) = specII lo hi fill v := by
  rw [← specII_of_or h]
  simp only [Int.not_lt.mpr (Int.le_trans hl hlo), or_false]

/-- the source has no value above the destination's maximum -/
theorem specII_of_lt (hh : ihi ≤ hi) (hhi : v ≤ ihi) (h : lo ≤ v → v ≤ hi → w = v) :
    (if v < lo then (fill, (-60 : Int)) else (w, (0 : Int))) = specII lo hi fill v := by
  rw [← specII_of_or h]
  simp only [gt_iff_lt, Int.not_lt.mpr (Int.le_trans hhi hh), false_or]

theorem specII_of_mem (hl : lo ≤ ilo) (hh : ihi ≤ hi) (hlo : ilo ≤ v) (hhi : v ≤ ihi)
    (h : lo ≤ v → v ≤ hi → w = v) : (w, (0 : Int)) = specII lo hi fill v := by
  have h1 := Int.le_trans hl hlo
  have h2 := Int.le_trans hhi hh
  rw [specII_in fill h1 h2, h h1 h2]

/-- `(T)xx` for an unsigned `T` of modulus `n` -/
theorem umod_id (h0 : 0 ≤ lo) (hn : hi < n) (h1 : lo ≤ v) (h2 : v ≤ hi) : v % n = v :=
  Int.emod_eq_of_lt (Int.le_trans h0 h1) (Int.lt_of_le_of_lt h2 hn)

/-- `(T)xx` for a signed `T` of modulus `n = 2 * m` -/
theorem smod_id (hn : n = 2 * m) (hl : -m ≤ lo) (hh : hi < m) (h1 : lo ≤ v) (h2 : v ≤ hi) :
    (v + m) % n - m = v := by
  rw [Int.emod_eq_of_lt (by omega) (by omega), Int.add_sub_cancel]

/-! floating → integer (GETF_CheckBND, GETF_CheckBND2, NCX_PUT1F).  The test is
    `xx > (double)MAX || xx < MIN || xx != xx`; `(double)MAX` is `hi'`: `hi` itself where `hi` is a
    value of the floating type, the next one above it where it is not (2^63 - 1, 2^64 - 1). -/

/-- `w`: `(T)xx` itself, or `(uchar)(T)xx` in the loops over external unsigned bytes -/
theorem specFI_of_guard' {lo hi hi' w : Int} (fill : Int) {v : FV} (hhi : hi ≤ hi')
    (hgap : FV.notInGap hi hi' v)
    (hw : lo ≤ FV.toInt 0 v → FV.toInt 0 v ≤ hi → w = FV.toInt 0 v) :
    (if (FV.gt v (.fin hi') ∨ FV.lt v (.fin lo)) ∨ ¬ FV.feq v v then (fill, (-60 : Int))
      else (w, (0 : Int))) = specFI lo hi fill v := by
  cases v with
  | nan => exact if_pos (.inr id)
  | pinf => exact if_pos (.inl (.inl trivial))
  | ninf => exact if_pos (.inl (.inr trivial))
  | fin q =>
    by_cases h1 : (lo : Rat) ≤ q
    · by_cases h2 : q ≤ (hi : Rat)
      · have hb := FV.truncQ_bounds h1 h2
        have h2' := Rat.le_trans h2 (Rat.intCast_le_intCast.mpr hhi)
        have hg : ¬ (((hi' : Rat) < q ∨ q < (lo : Rat)) ∨ ¬ q = q) := fun hg =>
          hg.elim (fun hg => hg.elim (Rat.not_lt.mpr h2') (Rat.not_lt.mpr h1)) fun hg => hg rfl
        exact (if_neg hg).trans ((congrArg (·, (0 : Int)) (hw hb.1 hb.2)).trans (if_pos ⟨h1, h2⟩).symm)
      · -- above `hi`, so by `hgap` above `hi'`: the first test fires
        exact (if_pos (.inl (.inl (hgap.resolve_left h2)))).trans (if_neg fun h => h2 h.2).symm
    · exact (if_pos (.inl (.inr (Rat.not_le.mp h1)))).trans (if_neg fun h => h1 h.1).symm

theorem specFI_of_guard (lo hi fill : Int) (v : FV) :
    (if (FV.gt v (.fin hi) ∨ FV.lt v (.fin lo)) ∨ ¬ FV.feq v v then (fill, (-60 : Int))
      else (FV.toInt 0 v, (0 : Int))) = specFI lo hi fill v :=
  specFI_of_guard' fill (Int.le_refl hi) (FV.notInGap_self hi v) fun _ _ => rfl

/-- GETF_CheckBND2: `if (xx == MIN) *ip = MIN; else` in front of the range test stores what the
    cast would store -/
theorem specFI_of_feq {lo hi z : Int} {fill : Int} {v : FV} {r : Int × Int} (h1 : lo ≤ z) (h2 : z ≤ hi)
    (h : r = specFI lo hi fill v) :
    (if FV.feq v (.fin z) then (z, (0 : Int)) else r) = specFI lo hi fill v := by
  split
  next hf =>
    rw [FV.eq_fin_of_feq hf]
    exact ((if_pos ⟨Rat.intCast_le_intCast.mpr h1, Rat.intCast_le_intCast.mpr h2⟩).trans
      (congrArg (·, (0 : Int)) (FV.truncQ_intCast z))).symm
  next => exact h

/-- NCX_PUT1F(float, double) -/
theorem specDF_of_or {a b : Rat} {R : Rounding} {fill v : FV} (ha : a = fltMax) (hb : b = -fltMax) :
    (if FV.gt v (.fin a) ∨ FV.lt v (.fin b) then (fill, (-60 : Int)) else (R.f32cast v, (0 : Int)))
      = specDF R fill v := by
  subst ha hb
  cases v with
  | nan => exact if_neg (fun h => h.elim id id)
  | pinf => exact if_pos (.inl trivial)
  | ninf => exact if_pos (.inr trivial)
  | fin q =>
    by_cases h1 : -fltMax ≤ q
    · by_cases h2 : q ≤ fltMax
      · exact (if_neg fun hg => hg.elim (Rat.not_lt.mpr h2) (Rat.not_lt.mpr h1)).trans
          (if_pos ⟨h1, h2⟩).symm
      · exact (if_pos (.inl (Rat.not_le.mp h2))).trans (if_neg fun h => h2 h.2).symm
    · exact (if_pos (.inr (Rat.not_le.mp h1))).trans (if_neg fun h => h1 h.1).symm

/-- x_get_NC_DOUBLE_float -/
theorem specDF_of_gt_lt {a b : Rat} {R : Rounding} {fill v : FV} (ha : a = fltMax) (hb : b = -fltMax) :
    (if FV.gt v (.fin a) then (fill, (-60 : Int)) else if FV.lt v (.fin b) then (fill, (-60 : Int))
      else (R.f32cast v, (0 : Int))) = specDF R fill v :=
  (ite_ite_same _ _).trans (specDF_of_or ha hb)

end ConvSpec
end PnVerif
